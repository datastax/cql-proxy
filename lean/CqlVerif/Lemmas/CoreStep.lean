import CqlVerif.Lemmas.Core
/-
Lemmas.CoreStep — every step of the concurrent core keeps the invariant `Good`, so it holds in every
reachable state.  A step changes one connection and, for a reply or a close notification, then runs a
handler for one request: between the two that request may be unowned, and `Moves.good` closes the gap.
-/
namespace CqlVerif.Core
open CqlVerif.Retry

theorem entry_unique {l : List (BS × Handle)} (hn : (l.map (·.1)).Nodup) {e w : BS × Handle}
    (he : e ∈ l) (hw : w ∈ l) (hk : e.1 = w.1) : e = w := by
  have hp : l.Pairwise (fun a b => a.1 ≠ b.1) := List.pairwise_map.mp hn
  exact List.Pairwise.forall_of_forall_of_flip (R := fun a b => a.1 = b.1 → a = b) (fun _ _ _ => rfl)
    (hp.imp fun h e => absurd e h) (hp.imp fun h e => absurd e.symm h) he hw hk

theorem find_some_mem {l : List (BS × Handle)} {b : BS} {e : BS × Handle}
    (h : l.find? (fun e => e.1 = b) = some e) : e ∈ l ∧ e.1 = b :=
  ⟨List.mem_of_find?_eq_some h, by simpa using List.find?_some h⟩

/-- the stream id moves from the keys of `pending` to the end of the free list -/
theorem release_nodup {free : List BS} {pend : List (BS × Handle)} {b : BS}
    (hn : (free ++ pend.map (·.1)).Nodup) (hb : b ∈ pend.map (·.1)) :
    (free ++ [b] ++ (removeEntry pend b).map (·.1)).Nodup := by
  have hp := (List.nodup_append.mp hn).2.1
  have : (removeEntry pend b).map (·.1) = (pend.map (·.1)).erase b := by
    simp [hp.erase_eq_filter, removeEntry, List.filter_map, Function.comp_def, ← bne_iff_ne]
  rw [this, List.append_assoc]
  exact ((List.perm_cons_erase hb).append_left free).nodup_iff.mp hn

theorem release_cinv {n : Nat} {k : Conn} {e : BS × Handle} (h : CInv n k) (he : e ∈ k.pending) : CInv n (release k e.1) :=
  .of_pending (fun e' he' => h.rid e' (Or.inl (List.mem_filter.mp he').1)) (release_nodup h.nodup (List.mem_map.mpr ⟨e, he, rfl⟩))
    (fun e' he' => List.mem_filter.mpr ⟨h.wire e' (List.mem_filter.mp he').1, (List.mem_filter.mp he').2⟩) h.notif

theorem release_caux {P : Prop} {k : Conn} {b : BS} (h : CAux P k) : CAux P (release k b) :=
  ⟨fun hd => by simp [release, h.deadWire hd], h.notifDead, h.notifNone, h.unused⟩

/-- releasing the stream of entry `e` takes nothing from the other requests: stream ids are keys of `pending` -/
theorem release_owned {n : Nat} {k : Conn} {e : BS × Handle} {r : ReqId} (h : CInv n k) (he : e ∈ k.pending)
    (hne : r ≠ e.2.rid) : OwnedBy k r → OwnedBy (release k e.1) r := by
  rintro ⟨e', her, hc⟩
  have keep : e' ∈ k.pending → Decidable.decide (e'.1 ≠ e.1) = true := fun hp => decide_eq_true fun hb =>
    hne (by rw [← her, entry_unique (List.nodup_append.mp h.nodup).2.1 hp he hb])
  refine ⟨e', her, ?_⟩
  rcases hc with hc | ⟨hp, hd⟩ | hc
  · exact Or.inl (List.mem_filter.mpr ⟨hc, keep (h.wire e' hc)⟩)
  · exact Or.inr (Or.inl ⟨List.mem_filter.mpr ⟨hp, keep hp⟩, hd⟩)
  · exact Or.inr (Or.inr hc)

/-- the invariant of the concurrent core: the request view, the connections' bookkeeping, and every
request answered or owned -/
structure Good (s : St) : Prop where
  inv : Inv s
  conns : ConnsOK s
  aux : Aux s
  live : ∀ r < s.nreq, Settled s r

/-- a handler for `r` re-establishes the invariant from a state in which only `r` may be unowned -/
theorem Moves.good {r : ReqId} {s t : St} (m : Moves r s t) (hr : r < s.nreq) (hi : Inv s) (hc : ConnsOK s) (ha : Aux s)
    (hl : ∀ x < s.nreq, x ≠ r → Settled s x) : Good t := by
  obtain ⟨hi', hc', hn⟩ := m.safe hr hi hc
  obtain ⟨ha', hr', hx⟩ := m.live ha
  refine ⟨hi', hc', ha', fun x hlt => ?_⟩
  by_cases h : x = r
  · exact h ▸ hr'
  · exact hx x (hl x (hn ▸ hlt) h)

theorem step_good (s : St) (a : Act) (h : Good s) : Good (step s a) := by
  cases a with
  | clientReq client cstream idem plan ws =>
    refine (execNext_moves plan (by simp)).good (Nat.lt_succ_self _) (h.inv.newReq _ rfl)
      (fun c => (h.conns c).mono (Nat.le_succ _)) h.aux fun x hx hne => ?_
    exact (h.live x (Nat.lt_of_le_of_ne (Nat.le_of_lt_succ hx) hne)).imp_left fun hd => by simpa [hne] using hd
  | backendReply c b o ws =>
    simp only [step]
    split
    · exact h
    · rename_i w hw
      obtain ⟨hwm, rfl⟩ := find_some_mem hw
      have hk := h.conns c
      split
      · rename_i hnone
        exact absurd (List.find?_eq_none.mp hnone w (hk.wire w hwm)) (by simp)
      · rename_i e he
        obtain ⟨hem, heb⟩ := find_some_mem he
        -- the entry found under the stream id is the frame that is being answered
        obtain rfl : e = w := entry_unique (List.nodup_append.mp hk.nodup).2.1 hem (hk.wire w hwm) heb
        have run : ∀ t, Moves e.2.rid (s.setConn c (release (s.conn c) e.1)) t → Good t := fun t m =>
          m.good (hk.rid e (Or.inl hem)) h.inv.setConn (h.conns.setConn (release_cinv hk hem))
            (h.aux.setConn (release_caux (h.aux c)))
            fun x hx hne => (h.live x hx).setConn (release_owned hk hem hne)
        apply run
        rcases e with ⟨b, r | r⟩
        · dsimp only
          split
          · exact .trySendTo (.prep r) fun s' _ => onResult_moves (.req r) rfl
          · exact onResult_moves (.req r) rfl
        · exact execute_moves
  | connDead c =>
    have hk := h.conns c
    have ha := h.aux c
    refine ⟨h.inv.setConn,
      h.conns.setConn (.of_pending (fun e he => hk.rid e (Or.inl he)) hk.nodup (by simp) hk.notif),
      h.aux.setConn ⟨fun _ => rfl, fun hn => ⟨rfl, (ha.notifDead hn).2⟩, ha.notifNone, ha.unused⟩,
      fun x hx => (h.live x hx).setConn ?_⟩
    -- what was on the wire is now registered on a dead connection that `Closing` has yet to visit
    rintro ⟨e, he, hc | ⟨hp, _, hn⟩ | hc⟩
    · have hn : (s.conn c).notified = false :=
        Bool.eq_false_iff.mpr fun hn => List.ne_nil_of_mem hc (ha.deadWire (ha.notifDead hn).1)
      exact ⟨e, he, Or.inr (Or.inl ⟨hk.wire e hc, rfl, hn⟩)⟩
    · exact ⟨e, he, Or.inr (Or.inl ⟨hp, rfl, hn⟩)⟩
    · exact ⟨e, he, Or.inr (Or.inr hc)⟩
  | closing c =>
    simp only [step]
    split
    · exact h
    · rename_i hcond
      have hk := h.conns c
      have ha := h.aux c
      have hn : (s.conn c).notified = false := by simpa using fun hn => hcond (Or.inl hn)
      have hd : (s.conn c).dead = true := by simpa using fun hd => hcond (Or.inr hd)
      refine ⟨h.inv.setConn,
        h.conns.setConn ⟨hk.rid, hk.nodup, hk.wire, fun e he => hk.rid e (Or.inl he)⟩,
        h.aux.setConn ⟨ha.deadWire, fun _ => ⟨hd, rfl⟩, by simp, fun hf => by simp [(ha.unused hf).1] at hn⟩,
        fun x hx => (h.live x hx).setConn ?_⟩
      -- the entries registered on the dead connection pass to the notifier
      rintro ⟨e, he, hc | ⟨hp, _⟩ | hc⟩
      · exact ⟨e, he, Or.inl hc⟩
      · exact ⟨e, he, Or.inr (Or.inr hp)⟩
      · simp [ha.notifNone hn] at hc
  | notifyNext c ws =>
    simp only [step]
    split
    · exact h
    · rename_i e rest hnot
      have hk := h.conns c
      have ha := h.aux c
      refine (onClose_moves _ ws).good (hk.notif e (by simp [hnot])) h.inv.setConn
        (h.conns.setConn ⟨hk.rid, hk.nodup, hk.wire, fun e' he' => hk.notif e' (hnot ▸ List.mem_cons_of_mem _ he')⟩)
        (h.aux.setConn ⟨ha.deadWire, ha.notifDead, fun hn => by simp [ha.notifNone hn] at hnot,
          fun hf => by simp [(ha.unused hf).2] at hnot⟩)
        fun x hx hne => (h.live x hx).setConn ?_
      rintro ⟨e', her, hc | hc | hc⟩
      · exact ⟨e', her, Or.inl hc⟩
      · exact ⟨e', her, Or.inr (Or.inl hc)⟩
      · rcases List.mem_cons.mp (hnot ▸ hc) with rfl | hc
        · exact absurd her.symm hne
        · exact ⟨e', her, Or.inr (Or.inr hc)⟩
  | slotCleared hst slot => exact ⟨h.inv.congr rfl rfl fun _ => ⟨rfl, rfl, rfl⟩, h.conns, h.aux, h.live⟩
  | connect hst slot maxStreams =>
    exact ⟨h.inv.congr rfl rfl fun _ => ⟨rfl, rfl, rfl⟩,
      h.conns.setConn ⟨by simp, by simpa using List.nodup_range, by simp, by simp⟩,
      upd_forall (P := fun c k => CAux (s.nconn + 1 ≤ c) k) (fun c => (h.aux c).mono (by omega))
        ⟨by simp, by simp, by simp, by omega⟩,
      fun x hx => (h.live x hx).setConn fun ho => absurd ho ((h.aux s.nconn).unused_not_owned (Nat.le_refl _))⟩

theorem init_good : Good init := by
  refine ⟨?_, fun _ => ?_, fun _ => ?_, fun _ hr => by simp [init] at hr⟩ <;> constructor <;> simp [init, cnt]

theorem reachable (as : List Act) : Good (run as) :=
  List.foldlRecOn as step init_good fun s h a _ => step_good s a h

end CqlVerif.Core
