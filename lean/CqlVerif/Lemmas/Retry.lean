import CqlVerif.Spec.RetrySpec
/-
Lemmas.Retry — the life of one request, `go`.  First what a single reaction (`react`) and a single
choice of host (`pick`) can do; then the properties of `go`, by its functional induction (fail-over:
by induction on the failures that precede the success).  The attempts bound rests on a potential:
the hosts left in the plan plus the attempts the request may still make beyond one per host
(`react_cont_credit`); termination is that bound read against the length of the script
(`go_undone_attempts`).
-/
namespace CqlVerif.Retry
open CqlVerif.Gen.RetryPolicy CqlVerif.RetrySpec

/-- closed form of the generated policy: it is the documented one, for all retry counts and
field values -/
theorem decide_eq_doc (idem : Bool) (rc : Nat) (o : Outcome) : decide idem rc o = docDecision idem rc o := by
  cases o <;> cases idem <;>
    simp [decide, docDecision, onReadTimeout, onWriteTimeout, onUnavailable, onErrorResponse, and_assoc, ← not_or]

theorem decide_retrySame {idem : Bool} {rc : Nat} {o : Outcome} (h : decide idem rc o = .retrySame) : rc = 0 := by
  rw [decide_eq_doc] at h
  unfold docDecision at h
  split at h <;> (try split at h) <;> cases h <;> omega

theorem react_cont_safe {rc : Nat} {o : Outcome} {m : Mode} {i p : Bool}
    (h : react false rc o = .cont m i p) : safeToResend o = true := by
  cases o <;> first | rfl | cases h

theorem react_pending {idem : Bool} {rc : Nat} {o : Outcome} (h : react idem rc o = .pending) : o = .silent := by
  unfold react at h
  split at h <;> (try split at h) <;> first | rfl | cases h

/-- a same-host continuation is either the policy's same-host retry or the re-execution after a
successful re-prepare -/
theorem react_cont_same {idem : Bool} {rc : Nat} {o : Outcome} {inc prep : Bool}
    (h : react idem rc o = .cont .same inc prep) :
    inc = true ∧ decide idem rc o = .retrySame ∨ inc = false ∧ o = .unprepared true .ok := by
  unfold react at h
  split at h <;> (try split at h) <;> cases h
  · exact .inr ⟨rfl, rfl⟩
  · exact .inl ⟨rfl, ‹_›⟩

theorem countReprepOk_le (o : Outcome) (rest : List Outcome) : countReprepOk rest ≤ countReprepOk (o :: rest) := by
  rw [countReprepOk.eq_def (o :: rest)]
  split <;> simp_all

/-- the attempts a request may still make beyond one per host of its plan — the policy's one
same-host retry while the retry count is 0, one re-execution per successful re-prepare left in
the script, the attempt a same-host continuation is about to make — do not grow over a
continuing reaction -/
theorem react_cont_credit {idem : Bool} {rc : Nat} {o : Outcome} (rest : List Outcome) {m : Mode} {inc prep : Bool}
    (h : react idem rc o = .cont m inc prep) :
    (if (if inc then rc + 1 else rc) = 0 then 1 else 0) + countReprepOk rest + (if m = .same then 1 else 0)
      ≤ (if rc = 0 then 1 else 0) + countReprepOk (o :: rest) := by
  have := countReprepOk_le o rest
  cases m
  · cases inc <;> simp <;> omega
  · obtain ⟨rfl, hd⟩ | ⟨rfl, rfl⟩ := react_cont_same h
    · simp [decide_retrySame hd]; omega
    · simp [countReprepOk]; omega

/-- outcomes after which an idempotent request moves on to the next host, whatever its retry count -/
def nextHostClass : Outcome → Bool
  | .connLost | .bootstrapping => true
  | .errResp c => c ≠ "ErrorCodeReadFailure" ∧ c ≠ "ErrorCodeWriteFailure"
  | .unprepared true .err | .unprepared true .lost => true
  | _ => false

theorem react_nextHostClass (rc : Nat) (o : Outcome) (h : nextHostClass o = true) :
    ∃ inc prep, react true rc o = .cont .next inc prep := by
  unfold nextHostClass at h
  split at h <;> simp_all [react, decide_eq_doc, docDecision]

theorem pickNext_cons (down : Host → Bool) (a : Host) (t : List Host) :
    pickNext down (a :: t) = if down a then pickNext down t else .host a t := by
  cases h : down a <;> simp [pickNext, skipDown, h]

theorem pickNext_len {down : Host → Bool} {l : List Host} {h : Host} {plan : List Host}
    (e : pickNext down l = .host h plan) : plan.length + 1 ≤ l.length := by
  induction l with
  | nil => cases e
  | cons a t ih =>
    rw [pickNext_cons] at e
    split at e
    · exact Nat.le_succ_of_le (ih e)
    · cases e; exact Nat.le_refl _

def upCount (down : Host → Bool) (l : List Host) : Nat := (l.filter fun h => !down h).length

theorem pickNext_up (down : Host → Bool) (l : List Host) (hpos : 0 < upCount down l) :
    ∃ h rest, pickNext down l = .host h rest ∧ upCount down rest + 1 = upCount down l := by
  induction l with
  | nil => cases hpos
  | cons a t ih =>
    rw [pickNext_cons]
    cases hd : down a
    · exact ⟨a, t, rfl, by simp [upCount, hd]⟩
    · simpa [upCount, hd] using ih (by simpa [upCount, hd] using hpos)

/-- a picked host takes a host off the plan, except that a same-host pick may leave the plan as it is -/
theorem pick_host_len {down : Nat → Host → Bool} {st : St} {mode : Mode} {h : Host} {plan : List Host}
    (e : pick down st mode = .host h plan) :
    plan.length + 1 ≤ st.plan.length + (if mode = .same then 1 else 0) := by
  cases mode <;> simp only [pick] at e
  · exact pickNext_len e
  · split at e
    · cases e
    · split at e
      · exact Nat.le_succ_of_le (pickNext_len e)
      · cases e; exact Nat.le_refl _

/- The cases of `go`'s functional induction, as the proofs below name them: `case1` the request is done
already, `case2` no host left, `case3` sent with nothing more scripted, `case4` no answer, `case5` the
reaction finishes the request, `case6` it continues. -/

/-- C04 core: for a request that is not positively idempotent, every attempt after the first
is preceded by an outcome in the safe set. -/
theorem go_attempts_safe (down : Nat → Host → Bool) (script : List Outcome) (mode : Mode) (st : St)
    (hi : st.idem = false) (k : Nat) (hk : st.attempts.length + k + 1 < (go down script mode st).attempts.length) :
    ∃ o, script[k]? = some o ∧ safeToResend o = true := by
  fun_induction go down script mode st generalizing k
  case case1 => omega
  case case6 o rest _ _ _ hr ih =>
    cases k with
    | zero => exact ⟨o, rfl, react_cont_safe (hi ▸ hr)⟩
    | succ k => exact ih hi k (by simp +zetaDelta at hk ⊢; omega)
  -- the other cases make at most one attempt: there is no attempt after the first
  all_goals simp +zetaDelta at hk; omega

theorem go_attempts_bounded (down : Nat → Host → Bool) (script : List Outcome) (mode : Mode) (st : St) :
    (go down script mode st).attempts.length ≤
      st.attempts.length + st.plan.length + (if st.retryCount = 0 then 1 else 0) + countReprepOk script
        + (if mode = .same then 1 else 0) := by
  fun_induction go down script mode st
  case case1 => omega
  case case2 => simp; omega
  case case6 hp _ o rest m inc prep hr ih =>
    have := pick_host_len hp
    have := react_cont_credit rest hr
    simp +zetaDelta at ih this ⊢
    omega
  all_goals
    have := pick_host_len ‹pick _ _ _ = _›
    simp +zetaDelta
    omega

def noSilent (script : List Outcome) : Bool := script.all (· != .silent)

/-- a request that is not done although every outcome arrived has used up the script and waits for
the answer to one more attempt -/
theorem go_undone_attempts (down : Nat → Host → Bool) (script : List Outcome) (mode : Mode) (st : St)
    (hns : noSilent script = true) (hd : (go down script mode st).done = false) :
    (go down script mode st).attempts.length = st.attempts.length + script.length + 1 := by
  fun_induction go down script mode st
  case case1 => simp_all
  case case2 => cases hd
  case case3 => simp +zetaDelta
  case case4 hr => simp [noSilent, react_pending hr] at hns
  case case5 => cases hd
  case case6 ih =>
    rw [ih (Bool.and_eq_true_iff.mp hns).2 hd]
    simp +zetaDelta
    omega

/-- C01/C05 termination: a request whose attempts are all answered (or dropped) is finished after
at most `plan + 1 (+ re-executions)` outcomes — it cannot stay unanswered. -/
theorem go_terminates (down : Nat → Host → Bool) (script : List Outcome) (mode : Mode) (st : St)
    (hns : noSilent script = true)
    (hlen : st.plan.length + (if st.retryCount = 0 then 1 else 0) + countReprepOk script
        + (if mode = .same then 1 else 0) ≤ script.length) :
    (go down script mode st).done = true := by
  cases hd : (go down script mode st).done
  · have := go_attempts_bounded down script mode st
    have := go_undone_attempts down script mode st hns hd
    omega
  · rfl

/-- a finished request has been given its reply (done is only ever set together with a reply) -/
theorem go_done_has_reply (down : Nat → Host → Bool) (script : List Outcome) (mode : Mode) (st : St)
    (h0 : st.done = true → st.reply.isSome = true) :
    (go down script mode st).done = true → (go down script mode st).reply.isSome = true := by
  fun_induction go down script mode st
  case case6 ih => exact ih (by simp_all +zetaDelta)
  all_goals simp_all +zetaDelta

/-- C05 fail-over: with a host set that does not change during the request, an idempotent request
whose first `pre.length` attempts all end in next-host-class outcomes, and that still has a live
host left, delivers the success of the following attempt. -/
theorem go_failover_success (down : Host → Bool) (pre rest : List Outcome) (st : St)
    (hi : st.idem = true) (hd : st.done = false)
    (hpre : ∀ o ∈ pre, nextHostClass o = true)
    (hup : pre.length < upCount down st.plan) :
    (go (fun _ => down) (pre ++ .success :: rest) .next st).reply = some (.result (st.attempts.length + pre.length)) := by
  induction pre generalizing st with
  | nil =>
    obtain ⟨h, plan, hs, _⟩ := pickNext_up down st.plan hup
    simp [go, hd, pick, hs, react]
  | cons o pre ih =>
    obtain ⟨h, plan, hs, hcnt⟩ := pickNext_up down st.plan (Nat.zero_lt_of_lt hup)
    obtain ⟨inc, prep, hr⟩ := react_nextHostClass st.retryCount o (hpre o List.mem_cons_self)
    rw [List.cons_append, go]
    simp only [hd, Bool.false_eq_true, ↓reduceIte, pick, hs, hi, hr]
    refine (ih _ rfl rfl (fun o ho => hpre o (List.mem_cons_of_mem _ ho)) ?_).trans ?_ <;>
      simp at hup ⊢ <;> omega

end CqlVerif.Retry
