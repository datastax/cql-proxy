import CqlVerif.Lemmas.Parser
import CqlVerif.Lemmas.GrammarBatch
import CqlVerif.Lemmas.GrammarUpdate
import CqlVerif.Lemmas.GrammarWhere
/-!
# C06 — The idempotency classifier is sound, case/whitespace-stable and total

Model: `Gen/LexTables.lean` (the scanner of parser/lexer.go, regenerated on every run) run by
`Model/Lexer.lean`, and `Model/Parser.lean` (the classifier over an abstract token stream).
The theorems of the first part hold for *every* token stream (`L : Lexer` is universally quantified)
— i.e. for arbitrary input bytes — and for every amount of fuel.
-/
namespace CqlVerif.C06
open CqlVerif.Parser CqlVerif.Gen.Lex

/-- **unparseable_false** — whatever the input: if the classifier reports an error (or the model
runs out of fuel) the verdict is "not idempotent". -/
theorem unparseable_false (L : Lexer) (fuel : Nat) (h : (classify L fuel).err = true) :
    (classify L fuel).idem = false := (classify_wf L fuel).h h

/-- **total** — classification is a total function of the input: `classify` is defined by
structural recursion on fuel and returns a verdict for every token stream (no crash, no hang). -/
theorem total (L : Lexer) (fuel : Nat) : ∃ r : R, classify L fuel = r := ⟨_, rfl⟩

/-- a SELECT is idempotent, DDL and USE are not — whatever follows the first token -/
theorem select_idempotent (L : Lexer) (fuel : Nat) (h : (L 0).kind = tkSelect) : (classify L fuel).idem = true := by
  simp [classify, nextT, h]

theorem ddl_use_not_idempotent (L : Lexer) (fuel : Nat)
    (h : (L 0).kind = tkUse ∨ (L 0).kind = tkCreate ∨ (L 0).kind = tkAlter ∨ (L 0).kind = tkDrop) :
    (classify L fuel).idem = false := by
  rcases h with h | h | h | h <;> simp [classify, nextT, h] <;> decide

/-- a counter batch is never idempotent -/
theorem counter_batch_not_idempotent (L : Lexer) (fuel : Nat) (s : LS)
    (h : isUnreservedKeyword (nextT L s).2 (nextT L s).1 "counter" = true)
    (hu : isUnreservedKeyword (nextT L s).2 (nextT L s).1 "unlogged" = false) :
    (batchStmt L fuel s).1.idem = false := by
  simp [batchStmt, h, hu]

/-- a lightweight-transaction `IF` after the mutation's body always yields "not idempotent" -/
theorem if_clause_not_idempotent (L : Lexer) (fuel : Nat) (s : LS) (t : Nat) (h : t = tkIf) :
    (scanForIf L (fuel + 1) s t).1.idem = false := by
  rw [h, Ast.scan_step (by decide), if_pos rfl]

/-- the system's non-deterministic functions are recognised in any letter case, unqualified or
qualified by `system` (quoted or not); a user keyspace's function of the same name is not -/
example : isNonIdempotentFunc { text := [78, 111, 87] } = true ∧ isNonIdempotentFunc { text := [117, 117, 105, 100], ignoreCase := false } = true ∧
    isNonIdempotentFunc { text := [110, 111, 119, 120] } = false := by decide

/-- **no_verdict_dropped** — for every token stream (i.e. every input) and every amount of fuel: if
the classifier answers "idempotent", then no function term it parsed anywhere in the statement —
VALUES, list / set / map / UDT / tuple literals at any depth (map keys *and* values), casts,
function arguments, WHERE relations, IN lists, SET operations, DELETE selectors, and every child of
a batch — was a call of the system's `now()` / `uuid()`.  (`sawNonIdem` is a ghost flag of the model
that `termFunc` raises on such a call and nothing reads; `classifyS` is `classify` with the final
scanner state exposed, `classifyS_fst`.) -/
theorem no_verdict_dropped (L : Lexer) (fuel : Nat) (h : (classify L fuel).idem = true) :
    (classifyS L fuel).2.sawNonIdem = false := classify_sound_flag L fuel h

/-- a token stream given explicitly (kind, identifier text) -/
def lexerOfTokens (ts : List (Nat × List Nat)) : Lexer := fun p =>
  match ts[p]? with
  | some (k, txt) => { kind := k, stop := p + 1, id := { text := txt } }
  | none => { kind := tkEOF, stop := p, id := {} }

/-- non-vacuity: `INSERT INTO t (a) VALUES (1, {'k': NoW()})` raises the flag and is classified
"not idempotent"; the same statement with `f()` is idempotent and leaves the flag down -/
example :
    let stmt (fn : List Nat) : List (Nat × List Nat) :=
      [(tkInsert, []), (tkInto, []), (tkIdentifier, [116]), (tkLparen, []), (tkIdentifier, [97]), (tkRparen, []),
       (tkIdentifier, [118, 97, 108, 117, 101, 115]), (tkLparen, []), (tkInteger, []), (tkComma, []), (tkLcurly, []),
       (tkStringLiteral, []), (tkColon, []), (tkIdentifier, fn), (tkLparen, []), (tkRparen, []), (tkRcurly, []), (tkRparen, [])]
    (classifyS (lexerOfTokens (stmt [78, 111, 87])) 60).2.sawNonIdem = true ∧ (classify (lexerOfTokens (stmt [78, 111, 87])) 60).idem = false ∧
    (classifyS (lexerOfTokens (stmt [102])) 60).2.sawNonIdem = false ∧ (classify (lexerOfTokens (stmt [102])) 60).idem = true := by
  decide +kernel

/- In the theorems below, about terms and statements as syntax trees (`Model/CqlAst.lean`), `L` is any lexer that yields
the rendered tokens one position apart (`At`: token `i` of the list stands at position `p + i`), whatever it yields
elsewhere; that the scanner turns text into those tokens is the `ast` stream's part. -/

open CqlVerif.Ast in
/-- **term_grammar_sound** — for every term of the CQL term grammar (literals, bind markers, list / set / map /
UDT / tuple literals nested to any depth, type casts with parameterised type names, function calls - qualified or
not - whose arguments are terms or column names), rendered as tokens in *any* context (`rest` is arbitrary, and so
is everything the lexer yields before position `p`), with any amount of fuel: if `parseTerm`, entered as the code
enters it (first token consumed), does not answer "not idempotent", then it has read exactly the term's tokens -
what follows is `rest` - and the term contains **no** call of `now()` / `uuid()` (unqualified or in keyspace
`system`, in any letter case) at any depth.  Together with `no_verdict_dropped` (which is about what the parser
*parsed*), this is the statement about what was *written*: the look-ahead / rewind paths (`{ f(…`, `{ ks.f(…`,
`{ field : …`, `( type ) …` versus `( f(…), …`, `f(col, …)`) cannot make a non-deterministic call disappear. -/
theorem term_grammar_sound (t : Term) (L : Lexer) (fuel : Nat) (s : LS) (p : Nat) (rest : List Tok)
    (hA : At L p (t.render rest)) (hF : Fed s p t.head)
    (hi : (parseTerm L fuel s t.head.kind).1.idem = true) :
    t.nonIdem = false ∧ At L (parseTerm L fuel s t.head.kind).2.2.p rest :=
  (term_sound t L fuel s p rest hA hF hi).symm

open CqlVerif.Ast in
/-- the same for the concrete lexer that yields a given token list: whatever precedes and follows the term -/
theorem term_grammar_sound_tokens (t : Term) (pre post : List Tok) (fuel : Nat) (s : LS) (hF : Fed s pre.length t.head)
    (hi : (parseTerm (lexOf (pre ++ t.render post)) fuel s t.head.kind).1.idem = true) : t.nonIdem = false :=
  (term_sound t _ fuel s pre.length post (At_lexOf pre (t.render post)) hF hi).2

open CqlVerif.Ast in
/-- non-vacuity: `[1, {f : (frozen<a, b>) ks.g(c, ?)}, {system.NoW(): :x}]` is a term of the grammar whose rendering
the parser rejects as not idempotent, and with `h()` in place of `system.NoW()` the hypotheses of the theorem are
met: the verdict is "idempotent" -/
example :
    let tm (ks : Option Ident) (fn : List Nat) : Term :=
      .list (.cons .int (.cons (.udt (.cons { text := [102] } (.cast { text := [102, 114] } [{ text := [97] }, { text := [98] }]
        (.call (some { text := [107, 115] }) { text := [103] } (.col { text := [99] } (.term .bindQ .nil)))) .nil))
        (.cons (.map (.cons (.call ks { text := fn } .nil) (.bindNamed { text := [120] }) .nil)) .nil)))
    let s0 : LS := { p := 1 }
    (tm (some { text := [115, 121, 115, 116, 101, 109] }) [78, 111, 87]).nonIdem = true ∧
    (parseTerm (lexOf ((tm (some { text := [115, 121, 115, 116, 101, 109] }) [78, 111, 87]).render [])) 40 s0 tkLsquare).1.idem = false ∧
    (tm none [104]).nonIdem = false ∧
    (parseTerm (lexOf ((tm none [104]).render [])) 40 s0 tkLsquare).1.idem = true := by
  decide +kernel

open CqlVerif.Ast in
/-- **insert_grammar_sound** — a whole statement: for every `INSERT INTO [ks.]table (columns) VALUES (terms) <tail>`
(any table and keyspace names - `json`, `values` included -, any number of columns, VALUES in any letter case, any
terms of the grammar above, and any tokens whatever behind the closing parenthesis: IF NOT EXISTS, USING …, `;`,
garbage), scanned into tokens from the start of the input, and every amount of fuel: if the classifier's verdict is
"idempotent" then none of the inserted values contains a call of `now()` / `uuid()` at any depth. -/
theorem insert_grammar_sound (i : Insert) (hkw : i.valuesKw.equal "values" = true) (L : Lexer) (fuel : Nat)
    (hA : At L 0 i.render) (hi : (classify L fuel).idem = true) : i.vals.nonIdem = false := by
  obtain ⟨s, hA', e⟩ := classify_insert (fuel := fuel) (tl := i.body i.tail) hA
  exact (insertStmt_run i hkw hA' (.inl (verdict_idem (e ▸ hi)))).1

open CqlVerif.Ast in
/-- the same for the lexer that yields exactly the statement's tokens and end of input behind them -/
theorem insert_grammar_sound_tokens (i : Insert) (hkw : i.valuesKw.equal "values" = true) (fuel : Nat)
    (hi : (classify (lexOf i.render) fuel).idem = true) : i.vals.nonIdem = false :=
  insert_grammar_sound i hkw _ fuel (by simpa using At_lexOf [] i.render) hi

open CqlVerif.Ast in
/-- non-vacuity: `INSERT INTO ks.json (a, b) VaLuEs (?, [1, f(x)])` meets the hypotheses (the verdict is "idempotent"),
and with `uuid()` for `f(x)` the verdict is "not idempotent" -/
example :
    let ins (fn : List Nat) (args : Args) : Insert :=
      { ks := some { text := [107, 115] }, table := { text := [106, 115, 111, 110] }, cols := [{ text := [97] }, { text := [98] }],
        valuesKw := { text := [86, 97, 76, 117, 69, 115] },
        vals := .cons .bindQ (.cons (.list (.cons .int (.cons (.call none { text := fn } args) .nil))) .nil), tail := [] }
    (ins [102] (.col { text := [120] } .nil)).valuesKw.equal "values" = true ∧
    (classify (lexOf (ins [102] (.col { text := [120] } .nil)).render) 60).idem = true ∧
    (ins [117, 117, 105, 100] .nil).vals.nonIdem = true ∧
    (classify (lexOf (ins [117, 117, 105, 100] .nil).render) 60).idem = false := by
  decide +kernel

open CqlVerif.Ast in
/-- **update_grammar_sound** — for every `UPDATE [ks.]table SET c₁ = term₁, …, cₙ = termₙ <tail>` (any names, SET in
any letter case, any number of assignments, any terms of the grammar, and any tail - WHERE …, IF …, `;`, end of
input, garbage - that does not begin with `+`, which would make the last assignment a list prepend), scanned from
the start of the input, with any fuel: if the verdict is "idempotent" then no assigned value contains a call of
`now()` / `uuid()` at any depth.  The look-ahead for `column = column ± term` and the one for `term + column`
(mark, two tokens, rewind) cannot make such a call disappear. -/
theorem update_grammar_sound (u : Update) (hkw : u.setKw.equal "set" = true) (b0 : Tok) (r0 : List Tok)
    (htail : u.tail = b0 :: r0) (hb0 : b0.kind ≠ tkAdd) (L : Lexer) (fuel : Nat)
    (hA : At L 0 u.render) (hi : (classify L fuel).idem = true) : u.ops.nonIdem = false := by
  obtain ⟨s', hA1, e⟩ := classify_update (fuel := fuel) hkw hA
  have hi := verdict_idem (e ▸ hi)
  cases hops : u.ops with
  | nil => rfl
  | cons c t as => exact (assigns_enter hb0 as c t fuel s' (hops ▸ htail ▸ hA1) (andThen_idem hi).1).1

open CqlVerif.Ast in
/-- non-vacuity: `UPDATE ks.t SeT a = {1, f(x)}, b = :v WHERE k = 1 <end>` meets the hypotheses (verdict "idempotent");
with `now()` for `f(x)` the verdict is "not idempotent" -/
example :
    let upd (fn : List Nat) (args : Args) : Update :=
      { ks := some { text := [107, 115] }, table := { text := [116] }, setKw := { text := [83, 101, 84] },
        ops := .cons { text := [97] } (.set (.cons .int (.cons (.call none { text := fn } args) .nil)))
                (.cons { text := [98] } (.bindNamed { text := [118] }) .nil),
        tail := [k tkWhere, idt { text := [107] }, k tkEqual, k tkInteger, k tkEOF] }
    (upd [102] (.col { text := [120] } .nil)).setKw.equal "set" = true ∧
    (classify (lexOf (upd [102] (.col { text := [120] } .nil)).render) 80).idem = true ∧
    (upd [110, 111, 119] .nil).ops.nonIdem = true ∧
    (classify (lexOf (upd [110, 111, 119] .nil).render) 80).idem = false := by
  decide +kernel

open CqlVerif.Ast in
/-- **update_where_grammar_sound** — the WHERE clause too: for every `UPDATE [ks.]table SET c = term, … WHERE rel AND rel
… <tail>` with at least one assignment, relations of the forms `column <op> term` (`= < <= > >= !=`) and `column IN
(terms)`, any terms of the grammar and any tail, scanned from the start of the input, with any fuel: if the verdict
is "idempotent" then neither an assigned value nor a term of the WHERE clause contains a call of `now()` / `uuid()`
at any depth. -/
theorem update_where_grammar_sound (u : UpdateW) (c : Ident) (t : Term) (as : Assigns) (hops : u.ops = .cons c t as)
    (hkw : u.setKw.equal "set" = true) (hwf : ∀ r ∈ u.rels, r.wf) (L : Lexer) (fuel : Nat)
    (hA : At L 0 u.render) (hi : (classify L fuel).idem = true) :
    u.ops.nonIdem = false ∧ relsNonIdem u.rels = false := by
  obtain ⟨s', hA1, e⟩ := classify_update (fuel := fuel) hkw hA
  have hi := verdict_idem (e ▸ hi)
  obtain ⟨hl, e2⟩ := andThen_idem hi
  obtain ⟨hn, n, s₂, e3, hA2⟩ := assigns_enter (by decide) as c t fuel s' (hops ▸ hA1) hl
  rw [e3] at hl
  obtain ⟨m, rfl⟩ := ops_pos hl
  rw [e2, e3, ops_stop (Or.inl rfl) hA2] at hi
  exact ⟨hops ▸ hn, whereAndIf_sound hwf hA2.next hi⟩

open CqlVerif.Ast in
/-- non-vacuity: `UPDATE t SET v = ? WHERE k = 1 AND j IN (2, f(x)) <end>` meets the hypotheses (verdict "idempotent");
with `now()` for `f(x)` in the IN list the verdict is "not idempotent" -/
example :
    let upd (fn : List Nat) (args : Args) : UpdateW :=
      { ks := none, table := { text := [116] }, setKw := { text := [115, 101, 116] },
        ops := .cons { text := [118] } .bindQ .nil,
        rels := [.cmp { text := [107] } tkEqual .int,
                 .inList { text := [106] } (.cons .int (.cons (.call none { text := fn } args) .nil))],
        tail := [k tkEOF] }
    (upd [102] (.col { text := [120] } .nil)).setKw.equal "set" = true ∧
    (classify (lexOf (upd [102] (.col { text := [120] } .nil)).render) 80).idem = true ∧
    relsNonIdem (upd [110, 111, 119] .nil).rels = true ∧
    (classify (lexOf (upd [110, 111, 119] .nil).render) 80).idem = false := by
  decide +kernel

open CqlVerif.Ast in
/-- **delete_where_grammar_sound** — for every `DELETE FROM [ks.]table WHERE rel AND rel … <tail>` (relations as in
`update_where_grammar_sound`), scanned from the start of the input, with any fuel: if the verdict is "idempotent" no
term of the WHERE clause contains a call of `now()` / `uuid()` at any depth. -/
theorem delete_where_grammar_sound (d : DeleteW) (hwf : ∀ r ∈ d.rels, r.wf) (L : Lexer) (fuel : Nat)
    (hA : At L 0 d.render) (hi : (classify L fuel).idem = true) : relsNonIdem d.rels = false := by
  obtain ⟨s, hA', e⟩ := classify_delete (fuel := fuel) hA
  have hi := verdict_idem (e ▸ hi)
  obtain ⟨n, rfl⟩ : ∃ n, fuel = n + 1 :=
    Nat.exists_eq_succ_of_ne_zero fun h => by simp [h, deleteStmt, deleteOpsLoop, R.fuel] at hi
  obtain ⟨s', hA1, e1⟩ := deleteStmt_eq (n := n) hA'
  exact whereAndIf_sound hwf hA1 (e1 ▸ hi)

open CqlVerif.Ast in
/-- non-vacuity: `DELETE FROM ks.t WHERE k >= [1, ?] <end>` meets the hypotheses; with `uuid()` in the list it is "not idempotent" -/
example :
    let del (x : Term) : DeleteW :=
      { ks := some { text := [107, 115] }, table := { text := [116] },
        rels := [.cmp { text := [107] } tkGtEqual (.list (.cons .int (.cons x .nil)))], tail := [k tkEOF] }
    (classify (lexOf (del .bindQ).render) 60).idem = true ∧
    relsNonIdem (del (.call none { text := [117, 117, 105, 100] } .nil)).rels = true ∧
    (classify (lexOf (del (.call none { text := [117, 117, 105, 100] } .nil)).render) 60).idem = false := by
  decide +kernel

open CqlVerif.Ast in
/-- **batch_grammar_sound** — every child of a batch: for every `BEGIN BATCH insert [;] insert [;] … APPLY BATCH <anything>`
with any number of INSERT children (each as in `insert_grammar_sound`, followed by any tokens that end no statement -
IF NOT EXISTS, USING … - and optionally a `;`), scanned from the start of the input, with any fuel: if the verdict is
"idempotent" then no child inserts a value that contains a call of `now()` / `uuid()` at any depth.  (A child behind
an `IF` is answered "not idempotent" by the scan that `scan_run` follows; the hand-over from one child to the
next - the token that ended the scan is the next child's first token, unless it was the `;` - is part of the proof.) -/
theorem batch_grammar_sound (children : List (Insert × Bool)) (rest : List Tok)
    (hall : ∀ c ∈ children, c.1.valuesKw.equal "values" = true ∧ ∀ x ∈ c.1.tail, isDMLTerminator x.kind = false)
    (L : Lexer) (fuel : Nat) (hA : At L 0 (renderBatch children rest)) (hi : (classify L fuel).idem = true) :
    childrenNonIdem children = false := by
  rw [renderBatch] at hA
  obtain ⟨b, tlb, eb, hterm, _⟩ := children_head children (k tkBatch :: rest)
  obtain ⟨s, hA', e⟩ := classify_batch (fuel := fuel) hA
  rw [e, batchStmt_eq (b := b) (ne_of_test hterm rfl) (eb ▸ hA')] at hi
  exact children_sound children hall fuel _ hA'.next hi

open CqlVerif.Ast in
/-- non-vacuity: `BEGIN BATCH INSERT INTO t (a) VALUES (1) USING TTL 5; INSERT INTO ks.t (a) values (f()) APPLY BATCH`
meets the hypotheses (verdict "idempotent"); with `uuid()` for `f()` in the second child the verdict is "not idempotent" -/
example :
    let child (ks : Option Ident) (kw : List Nat) (v : Term) (tail : List Tok) : Insert :=
      { ks, table := { text := [116] }, cols := [{ text := [97] }], valuesKw := { text := kw }, vals := .cons v .nil, tail }
    let batch (fn : List Nat) : List (Insert × Bool) :=
      [(child none [86, 65, 76, 85, 69, 83] .int [k tkUsing, idt { text := [116, 116, 108] }, k tkInteger], true),
       (child (some { text := [107, 115] }) [118, 97, 108, 117, 101, 115] (.call none { text := fn } .nil) [], false)]
    (∀ c ∈ batch [102], c.1.valuesKw.equal "values" = true ∧ ∀ x ∈ c.1.tail, isDMLTerminator x.kind = false) ∧
    (classify (lexOf (renderBatch (batch [102]) [])) 120).idem = true ∧
    childrenNonIdem (batch [117, 117, 105, 100]) = true ∧
    (classify (lexOf (renderBatch (batch [117, 117, 105, 100]) [])) 120).idem = false := by
  decide +kernel

open CqlVerif.Ast in
/-- **insert_if_not_idempotent** — a conditional insert is never reported idempotent: for every
`INSERT … VALUES (…) <tokens that end no statement> IF <anything>` (IF NOT EXISTS, with or without USING … before
it), whatever the inserted values, scanned from the start of the input, with any fuel: the verdict is "not
idempotent". -/
theorem insert_if_not_idempotent (i : Insert) (pre post : List Tok) (hkw : i.valuesKw.equal "values" = true)
    (hpre : ∀ x ∈ pre, isDMLTerminator x.kind = false) (htail : i.tail = pre ++ k tkIf :: post)
    (L : Lexer) (fuel : Nat) (hA : At L 0 i.render) : (classify L fuel).idem = false := by
  refine Bool.eq_false_iff.mpr fun hc => ?_
  obtain ⟨s, hA', e⟩ := classify_insert (fuel := fuel) (tl := i.body i.tail) hA
  have hi := verdict_idem (e ▸ hc)
  obtain ⟨_, s', e1, hA1⟩ := insertStmt_run i hkw hA' (.inl hi)
  rw [e1, scan_if pre post hpre (htail ▸ hA1)] at hi
  exact absurd hi (by decide)

open CqlVerif.Ast in
/-- **counter_update_not_idempotent** — counter updates and the ambiguous `column = column ± bind-marker` form: every
`UPDATE [ks.]table SET c = c2 + n` / `c = c2 - n` / `c = c2 + ?` / `c = c2 - ?` followed by anything at all, for any
names, scanned from the start of the input, with any fuel, is answered "not idempotent". -/
theorem counter_update_not_idempotent (ks : Option Ident) (table kw c c2 : Ident) (op : Nat) (arg : Tok) (rest : List Tok)
    (hkw : kw.equal "set" = true) (hop : op = tkAdd ∨ op = tkSub) (harg : arg.kind = tkInteger ∨ arg.kind = tkQMark)
    (L : Lexer) (fuel : Nat)
    (hA : At L 0 (k tkUpdate :: renderName ks table (idt kw :: idt c :: k tkEqual :: idt c2 :: k op :: arg :: rest))) :
    (classify L fuel).idem = false := by
  obtain ⟨s', hA1, e⟩ := classify_update (fuel := fuel) hkw hA
  have h : (enter L (updateOpsLoop L) fuel s').1.idem = false := by
    rw [enter_eq hA1]
    cases fuel with
    | zero => simp [updateOpsLoop, R.fuel]
    | succ n => rw [ops_step]; exact andThen_fail (counter_op hop harg hA1.next)
  rw [e]
  simp [verdict, andThen_fail h]

open CqlVerif.Ast in
/-- **plain_term_accepted** — the other direction, for the values the property calls plain: every term built only
from literals, bind markers (`?`, `:name`) and list / set / map / tuple literals of such terms, nested to any depth
and rendered in any token context, is read to its last token and answered "idempotent" without an error, as soon as
the fuel covers the term's size (the code itself has no fuel: its loops end with the input). -/
theorem plain_term_accepted (t : Term) (hp : t.plain = true) (L : Lexer) (fuel : Nat) (s : LS) (p : Nat) (rest : List Tok)
    (hf : t.size ≤ fuel) (hA : At L p (t.render rest)) (hF : Fed s p t.head) :
    (parseTerm L fuel s t.head.kind).1 = { idem := true } ∧ At L (parseTerm L fuel s t.head.kind).2.2.p rest :=
  term_complete t hp L fuel s p rest hf hA hF

open CqlVerif.Ast in
/-- non-vacuity: `{1: [?, :x], 'a': ({}, 2)}` is plain, of size 25 -/
example :
    let t : Term := .map (.cons .int (.list (.cons .bindQ (.cons (.bindNamed { text := [120] }) .nil)))
      (.cons (.prim .str) (.tuple (.cons (.set .nil) (.cons .int .nil))) .nil))
    t.plain = true ∧ t.size = 25 ∧ (parseTerm (lexOf (t.render [])) 25 { p := 1 } tkLcurly).1 = { idem := true } := by
  decide +kernel

open CqlVerif.Ast in
/-- **plain_insert_accepted** — a plain mutation is reported idempotent: every `INSERT INTO [ks.]table (columns) VALUES
(plain terms)` with or without a trailing `;` - any names, any number of columns and values, VALUES in any letter
case - scanned from the start of the input up to its end, is classified "idempotent" with no error, as soon as the
fuel covers its size. -/
theorem plain_insert_accepted (i : Insert) (semi : Bool) (hkw : i.valuesKw.equal "values" = true) (hpl : i.vals.plain = true)
    (htail : i.tail = endToks semi) (L : Lexer) (fuel : Nat) (hf : i.cols.length + i.vals.size + 2 ≤ fuel)
    (hA : At L 0 i.render) : classify L fuel = { idem := true } := by
  obtain ⟨s, hA', e⟩ := classify_insert (fuel := fuel) (tl := i.body i.tail) hA
  obtain ⟨-, s₂, e2, hA2⟩ := insertStmt_run (fuel := fuel) i hkw hA' (.inr ⟨terms_complete i.vals hpl, by omega⟩)
  obtain _ | n := fuel
  · omega
  rw [e, e2]
  exact scan_end semi (htail ▸ hA2)

open CqlVerif.Ast in
/-- non-vacuity: `INSERT INTO ks.values (a, b) VALUES (?, {1, 'x'});` meets the hypotheses with fuel 14 -/
example :
    let i : Insert :=
      { ks := some { text := [107, 115] }, table := { text := [118, 97, 108, 117, 101, 115] },
        cols := [{ text := [97] }, { text := [98] }], valuesKw := { text := [86, 65, 76, 85, 69, 83] },
        vals := .cons .bindQ (.cons (.set (.cons .int (.cons (.prim .str) .nil))) .nil), tail := endToks true }
    i.valuesKw.equal "values" = true ∧ i.vals.plain = true ∧ i.cols.length + i.vals.size + 2 ≤ 14 ∧
    classify (lexOf i.render) 14 = { idem := true } := by
  decide +kernel

open CqlVerif.Ast in
/-- **plain_update_accepted** — every `UPDATE [ks.]table SET c = plain term, … [;]` (at least one assignment, any names,
SET in any letter case), scanned from the start of the input up to its end, is classified "idempotent" with no
error, as soon as the fuel covers its size. -/
theorem plain_update_accepted (u : Update) (c : Ident) (t : Term) (as : Assigns) (semi : Bool) (hops : u.ops = .cons c t as)
    (hkw : u.setKw.equal "set" = true) (hpl : u.ops.plain = true) (htail : u.tail = endToks semi)
    (L : Lexer) (fuel : Nat) (hf : 1 + u.ops.size ≤ fuel) (hA : At L 0 u.render) : classify L fuel = { idem := true } := by
  obtain ⟨s', hA1, e⟩ := classify_update (fuel := fuel) hkw hA
  obtain ⟨b0, r0, hend, hterm⟩ : ∃ b0 r0, endToks semi = b0 :: r0 ∧ isDMLTerminator b0.kind = true := by
    cases semi <;> exact ⟨_, _, rfl, by decide⟩
  rw [hops] at hpl hf hA1
  rw [htail, hend] at hA1
  obtain ⟨s₂, e2, hA2⟩ := assigns_complete (Or.inr hterm) as c t fuel s' hpl (by omega) hA1
  obtain _ | f := fuel
  · omega
  have hw : whereAndIf L (f+1) (s₂.adv b0) b0.kind = enter L (scanForIf L) (f+1) s₂ := by
    rw [whereAndIf, if_neg (ne_of_test hterm rfl), enter_eq hA2]
  rw [e, andThen_ok (by rw [e2]), e2, hw]
  exact scan_end semi (hend ▸ hA2)

open CqlVerif.Ast in
/-- non-vacuity: `UPDATE t SET a = [1, ?], b = {'x': :v}` meets the hypotheses with fuel 17 -/
example :
    let u : Update :=
      { ks := none, table := { text := [116] }, setKw := { text := [83, 69, 84] },
        ops := .cons { text := [97] } (.list (.cons .int (.cons .bindQ .nil)))
                 (.cons { text := [98] } (.map (.cons (.prim .str) (.bindNamed { text := [118] }) .nil)) .nil),
        tail := endToks false }
    u.setKw.equal "set" = true ∧ u.ops.plain = true ∧ 1 + u.ops.size ≤ 17 ∧ classify (lexOf u.render) 17 = { idem := true } := by
  decide +kernel

end CqlVerif.C06
