import CqlVerif.Model.CqlAst
/-
Lemmas.GrammarCursor — the tool-kit of the grammar proofs: how the lexer state moves over known tokens
(`LS.adv`, `At.read`), what look-ahead (`mark` … `rewind`) leaves behind, the two ways every loop of the
parser is (re-)entered (`enter`, `contOf`), what stands between two elements of a comma-separated sequence
(`SeqTail`), how a caller hands on a sub-parser's verdict (`andThen`), and `parseQualifiedIdentifier` on a
rendered name.  In these files "behind" a token means after it in the token stream.
-/
namespace CqlVerif.Ast
open CqlVerif.Parser CqlVerif.Gen.Lex

/-- the parser has just consumed token `a`, which started at position `p` (`nextT` records the identifier only when the
token is one) -/
def Fed (s : LS) (p : Nat) (a : Tok) : Prop := s.p = p + 1 ∧ (a.kind = tkIdentifier → s.id = a.id)

theorem At_cons {L : Lexer} {p : Nat} {a : Tok} {tl : List Tok} :
    At L p (a :: tl) ↔ (L p = { kind := a.kind, stop := p + 1, id := a.id } ∧ At L (p + 1) tl) := Iff.rfl

/-- the lexer state behind token `a` -/
def _root_.CqlVerif.Parser.LS.adv (s : LS) (a : Tok) : LS :=
  { s with p := s.p + 1, id := if a.kind = tkIdentifier then a.id else s.id }

variable {L : Lexer} {s : LS} {a b : Tok} {tl toks : List Tok} {p : Nat}

/-- Token lists are stated at a state's own position, so that for `h : At L s.p (a :: b :: …)` the equations `h.read`,
`h.next.read`, … evaluate the successive `nextT`s from `s` on; where the first token `a` is already consumed the list
stands at `p` with `Fed s p a`, which `Fed.at` turns into the former. -/
theorem At.read (h : At L s.p (a :: tl)) : nextT L s = (a.kind, s.adv a) := by
  simp [Parser.nextT, LS.adv, h.1]

theorem At.next (h : At L s.p (a :: tl)) : At L (s.adv a).p tl := h.2

theorem fed_adv : Fed (s.adv a) s.p a := ⟨rfl, fun h => by simp [LS.adv, h]⟩

@[simp] theorem adv_idt_id {i : Ident} : (s.adv (idt i)).id = i := by simp [LS.adv]

theorem Fed.at (hF : Fed s p a) (hA : At L p (a :: tl)) : At L s.p tl := hF.1 ▸ hA.2

/-- `l.mark(); maybe := l.next(); l.rewind()` leaves position and identifier as they were: the state is `mark s` again
(by `rfl`); the second name records that it arose from a look-ahead undone -/
def remark (s : LS) : LS := { s with m := s.p, mid := s.id }

@[simp] theorem remark_p (s : LS) : (remark s).p = s.p := rfl
@[simp] theorem rewind_adv : rewind (s.adv a) = rewind s := rfl
@[simp] theorem rewind_mark : rewind (mark s) = remark s := rfl
@[simp] theorem peek_fst : (nextT L (mark s)).1 = (nextT L s).1 := rfl
@[simp] theorem rewind_nextT : rewind (nextT L s).2 = rewind s := rfl
theorem At.mark (h : At L s.p toks) : At L (mark s).p toks := h
theorem At.remark (h : At L s.p toks) : At L (remark s).p toks := h
theorem Fed.remark (h : Fed s p a) : Fed (remark s) p a := h

theorem ne_of_test {test : Nat → Bool} {t c : Nat} (h : test t = true) (hc : test c = false) : t ≠ c := by
  intro e; subst e; simp [h] at hc

theorem skip_ne {t c : Nat} (h : t ≠ c) : skipToken L s t c = (t, s) := by simp [skipToken, h]
theorem skip_eq {c : Nat} : skipToken L s c c = nextT L s := by simp [skipToken]

def enter {β : Type} (L : Lexer) (loop : Nat → LS → Nat → β) (fuel : Nat) (s : LS) : β :=
  loop fuel (nextT L s).2 (nextT L s).1

/-- after an element: read the separator, skip it if it is `sep`, go round the loop again -/
def contOf {β : Type} (L : Lexer) (loop : Nat → LS → Nat → β) (sep : Nat) (fuel : Nat) (s : LS) : β :=
  loop fuel (skipToken L (nextT L s).2 (nextT L s).1 sep).2 (skipToken L (nextT L s).2 (nextT L s).1 sep).1

variable {β : Type} {loop : Nat → LS → Nat → β} {sep fuel : Nat}

theorem enter_eq (h : At L s.p (a :: tl)) : enter L loop fuel s = loop fuel (s.adv a) a.kind := by
  simp only [enter, h.read]

theorem contOf_sep (h : At L s.p (k sep :: tl)) : contOf L loop sep fuel s = enter L loop fuel (s.adv (k sep)) := by
  simp only [contOf, h.read, skip_eq, enter]

theorem contOf_end (h : At L s.p (a :: tl)) (ha : a.kind ≠ sep) : contOf L loop sep fuel s = enter L loop fuel s := by
  simp only [contOf, h.read, skip_ne ha, enter]

variable {tail elems : List Tok} {c : Tok}

/-- what stands behind an element of a comma-separated sequence that the token `c` closes: the closing part itself, or
a comma and the remaining elements; the second list is what is to be read when the loop is entered again -/
inductive SeqTail (c : Tok) : List Tok → List Tok → Prop
  | last (rest : List Tok) : SeqTail c (c :: rest) (c :: rest)
  | more (elems : List Tok) : SeqTail c (k tkComma :: elems) elems

theorem SeqTail.read (h : SeqTail c tail elems) (hA : At L s.p tail) : (nextT L s).1 = c.kind ∨ (nextT L s).1 = tkComma := by
  cases h with
  | last rest => exact Or.inl (congrArg Prod.fst hA.read)
  | more => exact Or.inr (congrArg Prod.fst hA.read)

theorem SeqTail.enter (h : SeqTail c tail elems) (loop : Nat → LS → Nat → β) (fuel : Nat) (hc : c.kind ≠ tkComma)
    (hA : At L s.p tail) : ∃ s', contOf L loop tkComma fuel s = enter L loop fuel s' ∧ At L s'.p elems := by
  cases h with
  | last rest => exact ⟨s, contOf_end hA hc, hA⟩
  | more => exact ⟨_, contOf_sep hA, hA.next⟩

/-- `termCurly` enters its loops from the state `remark (s.adv a)` that its look-ahead leaves after the first token `a`:
that is what `enter` yields from some `s'` with `s'.p = s.p` (it differs from `s` in the mark only), so that the `*_enter`
lemmas, stated for `enter`, apply; hence the shape `∃ s', s'.p = s.p ∧ … = enter … s'` of the `curly_*` lemmas -/
theorem enter_remark (loop : Nat → LS → Nat → β) (fuel : Nat) (h : At L s.p (a :: tl)) :
    ∃ s' : LS, s'.p = s.p ∧ loop fuel (remark (s.adv a)) a.kind = enter L loop fuel s' :=
  ⟨{ s with m := s.p + 1, mid := (s.adv a).id }, rfl, (enter_eq (s := { s with m := s.p + 1, mid := (s.adv a).id }) h).symm⟩

/-- a sub-parser's result `o` handed on: a verdict other than "idempotent" is the caller's verdict too (with `x` for the
rest of the caller's result); otherwise the caller goes on with `g` -/
def andThen {σ γ : Type} (o : R × σ) (x : σ → γ) (g : σ → R × γ) : R × γ :=
  if !o.1.idem then (o.1, x o.2) else g o.2

variable {σ γ : Type} {o : R × σ} {x : σ → γ} {g : σ → R × γ}

theorem andThen_ok (h : o.1.idem = true) : andThen o x g = g o.2 := by simp [andThen, h]

theorem andThen_fail (h : o.1.idem = false) : (andThen o x g).1.idem = false := by simp [andThen, h]

theorem andThen_idem (h : (andThen o x g).1.idem = true) : o.1.idem = true ∧ andThen o x g = g o.2 := by
  cases hr : o.1.idem <;> simp_all [andThen]

def nameHead (ks : Option Ident) (name : Ident) : Tok := idt (ks.getD name)

theorem renderName_head (ks : Option Ident) (name : Ident) (rest : List Tok) :
    ∃ tl, renderName ks name rest = nameHead ks name :: tl := by
  cases ks <;> exact ⟨_, rfl⟩

theorem pqi_name {ks : Option Ident} {name : Ident} (hb : b.kind ≠ tkDot) (hA : At L p (renderName ks name (b :: tl)))
    (hF : Fed s p (nameHead ks name)) :
    ∃ s' : LS, parseQualifiedIdentifier L s = (ks.getD {}, name, b.kind, false, s'.adv b) ∧ At L s'.p (b :: tl) := by
  have hid := hF.2 rfl
  cases ks with
  | none => exact ⟨s, by simp [parseQualifiedIdentifier, (hF.at hA).read, hb, hid, nameHead], hF.at hA⟩
  | some q =>
    have h := hF.at hA
    exact ⟨_, by simp [parseQualifiedIdentifier, h.read, h.next.read, h.next.next.read, hid, nameHead], h.next.next⟩

theorem read_name {ks : Option Ident} {name : Ident} (hb : b.kind ≠ tkDot) (hA : At L s.p (renderName ks name (b :: tl))) :
    ∃ s₁ s' : LS, nextT L s = (tkIdentifier, s₁) ∧
      parseQualifiedIdentifier L s₁ = (ks.getD {}, name, b.kind, false, s'.adv b) ∧ At L s'.p (b :: tl) := by
  obtain ⟨tl', e⟩ := renderName_head ks name (b :: tl)
  obtain ⟨s', hq, hA'⟩ := pqi_name hb hA fed_adv
  exact ⟨_, s', (e ▸ hA : At L s.p (nameHead ks name :: tl')).read, hq, hA'⟩

theorem At_lexOf (pre ts : List Tok) : At (lexOf (pre ++ ts)) pre.length ts := by
  induction ts generalizing pre with
  | nil => trivial
  | cons a tl ih =>
    refine ⟨?_, ?_⟩
    · simp [lexOf]
    · simpa using ih (pre ++ [a])

end CqlVerif.Ast
