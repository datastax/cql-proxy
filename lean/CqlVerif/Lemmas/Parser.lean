import CqlVerif.Model.Parser
/-
Lemmas.Parser — two facts about the result of every function of the classifier, proved in one pass
over the functions.  (1) An error (or exhausted fuel) is never "idempotent": `WF`.  (2) No verdict
is dropped: `LS.sawNonIdem` is a ghost flag that `termFunc` raises when a function term it has
parsed to its closing parenthesis is `now()` / `uuid()` (unqualified or in keyspace `system`), and
every function hands the flag on untouched unless it answers "not idempotent".  `Ok b x` says both
of a result `x` reached from a state whose flag was `b`; it is proved for each function from its
unfolded body by rewriting with the few lemmas of the section `kit` (`ok_walk`), and last for `classifyS`,
which is `classify` with the final scanner state exposed: it is `Ok` for the flag `false` it starts with.
-/
namespace CqlVerif.Parser
open CqlVerif.Gen.Lex

/-- a sub-parser result is well-formed: an error (or exhausted fuel) is never "idempotent" -/
structure WF (r : R) : Prop where
  h : r.err = true → r.idem = false

theorem ite_iff {α : Type} {P : α → Prop} {c : Prop} [Decidable c] {x y : α} :
    P (if c then x else y) ↔ (c → P x) ∧ (¬c → P y) := by
  split <;> simp [*]

theorem WF_ite3 {α β : Type} (c : Prop) [Decidable c] (a b : R × α × β)
    (ha : c → WF a.1) (hb : ¬c → WF b.1) : WF (if c then a else b).1 :=
  (ite_iff (P := fun x : R × α × β => WF x.1)).2 ⟨ha, hb⟩

/- The steps that never touch the flag.  (`by rfl`, not `rfl`: a lemma marked as holding by
definition is applied by `simp` through `dsimp`, and the proof `simp` then hands back for a side
condition `s'.sawNonIdem = b` does not check at the transparency `simp` works with.) -/
section neutral
variable (L : Lexer) (s : LS)

theorem nextT_saw : (nextT L s).2.sawNonIdem = s.sawNonIdem := by rfl
theorem mark_saw : (mark s).sawNonIdem = s.sawNonIdem := by rfl
theorem rewind_saw : (rewind s).sawNonIdem = s.sawNonIdem := by rfl

theorem nextT_if_saw (c : Prop) [Decidable c] (t : Nat) :
    (if c then nextT L s else (t, s)).2.sawNonIdem = s.sawNonIdem := by
  split <;> rfl

theorem skipToken_saw (t k : Nat) : (skipToken L s t k).2.sawNonIdem = s.sawNonIdem :=
  nextT_if_saw L s _ t

theorem pqi_saw : (parseQualifiedIdentifier L s).2.2.2.2.sawNonIdem = s.sawNonIdem := by
  unfold parseQualifiedIdentifier
  simp only [apply_ite Prod.snd, apply_ite LS.sawNonIdem, ite_self, nextT_saw]

theorem identifiers_saw : ∀ fuel s t, (parseIdentifiers L fuel s t).2.sawNonIdem = s.sawNonIdem
  | 0, _, _ => rfl
  | n+1, s, t => by
    unfold parseIdentifiers
    simp only [apply_ite Prod.snd, apply_ite LS.sawNonIdem, ite_self, identifiers_saw n, skipToken_saw,
      nextT_saw]

theorem bindMarker_saw (t : Nat) : (parseBindMarker L s t).2.sawNonIdem = s.sawNonIdem := by
  unfold parseBindMarker
  simp only [apply_ite Prod.snd, apply_ite LS.sawNonIdem, ite_self, nextT_saw]

theorem typeLoop_saw : ∀ fuel s t, (parseTypeLoop L fuel s t).2.2.sawNonIdem = s.sawNonIdem
  | 0, _, _ => rfl
  | n+1, s, t => by
    unfold parseTypeLoop
    simp only [apply_ite Prod.snd, apply_ite LS.sawNonIdem, ite_self, typeLoop_saw n, skipToken_saw,
      nextT_saw]

theorem type_saw (fuel : Nat) : (parseType L fuel s).2.2.sawNonIdem = s.sawNonIdem := by
  unfold parseType
  simp only [apply_ite Prod.snd, apply_ite LS.sawNonIdem, ite_self, typeLoop_saw, nextT_saw]

theorem ttlOrTimestamp_saw : (parseTtlOrTimestamp L s).2.sawNonIdem = s.sawNonIdem := by
  unfold parseTtlOrTimestamp
  simp only [apply_ite Prod.snd, apply_ite LS.sawNonIdem, ite_self, bindMarker_saw, nextT_saw]

theorem usingClause_saw (t : Nat) : (parseUsingClause L s t).2.2.sawNonIdem = s.sawNonIdem := by
  unfold parseUsingClause
  simp only [apply_ite Prod.snd, apply_ite LS.sawNonIdem, ite_self, ttlOrTimestamp_saw, nextT_saw]

end neutral

/-- the result `x = (r, s)` of a sub-parser entered with flag `b` is well-formed and, if it says
"idempotent", leaves the flag as it was -/
structure Ok (b : Bool) (x : R × LS) : Prop where
  wf : WF x.1
  saw : x.1.idem = true → x.2.sawNonIdem = b

/-- `Ok` for the sub-parsers that also return a token or a term type -/
def Ok3 {α : Type} (b : Bool) (x : R × α × LS) : Prop := Ok b (x.1, x.2.2)

section kit
variable {α : Type} {b : Bool} {r : R} {s : LS} {a : α}

theorem Ok.congr {s' : LS} (h : Ok b (r, s)) (e : s'.sawNonIdem = s.sawNonIdem) : Ok b (r, s') :=
  ⟨h.wf, fun hi => e.trans (h.saw hi)⟩

theorem Ok.bad : Ok b (R.bad, s) := ⟨⟨fun _ => rfl⟩, nofun⟩
theorem Ok.fuel : Ok b (R.fuel, s) := ⟨⟨fun _ => rfl⟩, nofun⟩
theorem Ok.pure {i : Bool} (h : s.sawNonIdem = b) : Ok b ({ idem := i }, s) := ⟨⟨nofun⟩, fun _ => h⟩
/-- the verdict built from a callee's error bit (`parseIdentifiersRelation`, `parseRelation`) -/
theorem Ok.ofErr {e : Bool} (h : s.sawNonIdem = b) : Ok b ({ idem := !e, err := e }, s) :=
  ⟨⟨by simp⟩, fun _ => h⟩

/-- `termFunc`, the one place where the flag is raised: together with the answer "not idempotent" -/
theorem Ok.raise {bad : Bool} :
    Ok s.sawNonIdem ({ idem := !bad }, { s with sawNonIdem := s.sawNonIdem || bad }) :=
  ⟨⟨nofun⟩, fun h => by cases bad <;> simp_all⟩

theorem Ok3.iff : Ok3 b (r, a, s) ↔ Ok b (r, s) := Iff.rfl

/- `bind` below takes a callee's result by its components `(r, s)`; these two recognise them -/
theorem Ok.out {x : R × LS} : Ok b (x.1, x.2) ↔ Ok b x := Iff.rfl
theorem Ok3.out {x : R × α × LS} : Ok b (x.1, x.2.2) ↔ Ok3 b x := Iff.rfl

theorem Ok.ite {c : Prop} [Decidable c] {x y : R × LS} :
    Ok b (if c then x else y) ↔ (c → Ok b x) ∧ (¬c → Ok b y) := ite_iff
theorem Ok3.ite {c : Prop} [Decidable c] {x y : R × α × LS} :
    Ok3 b (if c then x else y) ↔ (c → Ok3 b x) ∧ (¬c → Ok3 b y) := ite_iff

/-- the callee's result `(r, s)` is handed on when it is not idempotent; otherwise the function goes
on from `s`, whose flag is still `b` -/
theorem Ok.bind (h : Ok b (r, s)) {y : R × LS} :
    Ok b (if (!r.idem) = true then (r, s) else y) ↔ (r.idem = true → Ok s.sawNonIdem y) := by
  cases hr : r.idem
  · simpa using h
  · simp [show s.sawNonIdem = b from h.saw hr]

/-- the same with the branches the other way round (`parseUpdateOp`) -/
theorem Ok.bind_else (h : Ok b (r, s)) {y : R × LS} :
    Ok b (if r.idem = true then y else (r, s)) ↔ (r.idem = true → Ok s.sawNonIdem y) := by
  rw [← Ok.bind h]
  cases r.idem <;> rfl

theorem Ok3.bind (h : Ok b (r, s)) {y : R × α × LS} :
    Ok3 b (if (!r.idem) = true then (r, a, s) else y) ↔ (r.idem = true → Ok3 s.sawNonIdem y) := by
  cases hr : r.idem
  · simpa [Ok3.iff] using h
  · simp [show s.sawNonIdem = b from h.saw hr]

end kit

/-- `ok_walk [callees, hb]` proves `Ok b (f …)` from the unfolded body of `f` by rewriting, from the
root down: `Ok.bind` where a callee's result is handed on (its hypothesis comes from the callee's
lemma, given in `callees`; tried first, `↓`, since the shape is a conditional too), `Ok.ite` at any
other conditional, the constants at the leaves, and for the flag of the state reached the `_saw`
lemmas, back to the entry state's, which `hb` says is `b`.  Shapes that occur in one or two functions only
(`Ok.raise`, `Ok.bind_else`, `Ok.ofErr`) are named where they are needed. -/
macro "ok_walk" "[" ls:Lean.Parser.Tactic.simpLemma,* "]" : tactic =>
  `(tactic| simp only [↓Ok.bind, ↓Ok3.bind, Ok.out, Ok3.out, Ok.ite, Ok3.ite, Ok3.iff, Ok.bad, Ok.pure,
    nextT_saw, nextT_if_saw, skipToken_saw, mark_saw, rewind_saw, pqi_saw, identifiers_saw,
    bindMarker_saw, type_saw, usingClause_saw, implies_true, and_true, true_and, $ls,*])

variable (L : Lexer) {b : Bool}

/-- `Ok3` for each of the nine mutually recursive term functions at one fuel, so that `terms_ok` is a single induction on
the fuel -/
structure TermsOk (fuel : Nat) : Prop where
  term : ∀ s t {b}, s.sawNonIdem = b → Ok3 b (parseTerm L fuel s t)
  list : ∀ s t {b}, s.sawNonIdem = b → Ok3 b (parseListLoop L fuel s t)
  tuple : ∀ s t {b}, s.sawNonIdem = b → Ok3 b (parseTupleLoop L fuel s t)
  udt : ∀ s t {b}, s.sawNonIdem = b → Ok3 b (parseUDTLoop L fuel s t)
  setmap : ∀ s t {b}, s.sawNonIdem = b → Ok3 b (parseSetOrMapLoop L fuel s t)
  args : ∀ s t {b}, s.sawNonIdem = b → Ok3 b (parseFuncArgs L fuel s t)
  curly : ∀ s {b}, s.sawNonIdem = b → Ok3 b (termCurly L fuel s)
  paren : ∀ s {b}, s.sawNonIdem = b → Ok3 b (termParen L fuel s)
  func : ∀ s {b}, s.sawNonIdem = b → Ok3 b (termFunc L fuel s)

theorem terms_ok (fuel : Nat) : TermsOk L fuel := by
  induction fuel with
  | zero =>
    constructor <;> intros <;>
      simp only [parseTerm, parseListLoop, parseTupleLoop, parseUDTLoop, parseSetOrMapLoop, parseFuncArgs,
        termCurly, termParen, termFunc, Ok3.iff, Ok.fuel]
  | succ n ih =>
    constructor
    · intro s t b hb
      unfold parseTerm
      ok_walk [ih.list, ih.curly, ih.paren, ih.func, hb]
    · intro s t b hb
      unfold parseListLoop
      ok_walk [ih.term, ih.list, hb]
    · intro s t b hb
      unfold parseTupleLoop
      ok_walk [ih.term, ih.tuple, hb]
    · intro s t b hb
      unfold parseUDTLoop
      ok_walk [ih.term, ih.udt, hb]
    · intro s t b hb
      unfold parseSetOrMapLoop
      ok_walk [ih.term, ih.setmap, hb]
    · intro s t b hb
      unfold parseFuncArgs
      ok_walk [ih.term, ih.args, hb]
    · intro s b hb
      unfold termCurly
      ok_walk [ih.udt, ih.setmap, hb]
    · intro s b hb
      unfold termParen
      ok_walk [ih.term, ih.tuple, hb]
      -- left: the cast, answered `{ idem := true, err := r.err }` from the inner term's `r`
      intro _ _ _ hi
      exact ⟨⟨fun he => hi.symm.trans ((ih.term _ _ rfl).wf.h he)⟩, fun _ => rfl⟩
    · intro s b hb
      unfold termFunc
      ok_walk [ih.args, Ok.raise, hb]

theorem term_ok (fuel : Nat) (s : LS) (t : Nat) (hb : s.sawNonIdem = b) : Ok3 b (parseTerm L fuel s t) :=
  (terms_ok L fuel).term s t hb

theorem termsUntilRparen_ok (fuel : Nat) (s : LS) (t : Nat) (hb : s.sawNonIdem = b) :
    Ok3 b (parseTermsUntilRparen L fuel s t) := by
  induction fuel generalizing s t b with
  | zero => exact Ok.fuel
  | succ n ih =>
    unfold parseTermsUntilRparen
    ok_walk [term_ok, ih, hb]

theorem scanForIf_ok (fuel : Nat) (s : LS) (t : Nat) (hb : s.sawNonIdem = b) :
    Ok3 b (scanForIf L fuel s t) := by
  induction fuel generalizing s t b with
  | zero => exact Ok.fuel
  | succ n ih =>
    unfold scanForIf
    ok_walk [ih, hb]

theorem identifiersRelation_ok (fuel : Nat) (s : LS) (hb : s.sawNonIdem = b) :
    Ok b (parseIdentifiersRelation L fuel s) := by
  unfold parseIdentifiersRelation
  ok_walk [termsUntilRparen_ok, Ok.ofErr, hb]

theorem relation_ok (fuel : Nat) (s : LS) (t : Nat) (hb : s.sawNonIdem = b) :
    Ok b (parseRelation L fuel s t) := by
  induction fuel generalizing s t b with
  | zero => exact Ok.fuel
  | succ n ih =>
    unfold parseRelation
    ok_walk [term_ok, termsUntilRparen_ok, identifiersRelation_ok, ih, Ok.ofErr, hb]

theorem whereLoop_ok (fuel : Nat) (s : LS) (t : Nat) (hb : s.sawNonIdem = b) :
    Ok3 b (parseWhereLoop L fuel s t) := by
  induction fuel generalizing s t b with
  | zero => exact Ok.fuel
  | succ n ih =>
    unfold parseWhereLoop
    ok_walk [relation_ok, ih, hb]

theorem whereClause_ok (fuel : Nat) (s : LS) (hb : s.sawNonIdem = b) : Ok3 b (parseWhereClause L fuel s) := by
  unfold parseWhereClause
  ok_walk [whereLoop_ok, hb]

theorem updateOp_ok (fuel : Nat) (s : LS) (t : Nat) (hb : s.sawNonIdem = b) : Ok b (parseUpdateOp L fuel s t) := by
  unfold parseUpdateOp
  ok_walk [term_ok, ↓Ok.bind_else, hb]

theorem updateOpsLoop_ok (fuel : Nat) (s : LS) (t : Nat) (hb : s.sawNonIdem = b) :
    Ok3 b (updateOpsLoop L fuel s t) := by
  induction fuel generalizing s t b with
  | zero => exact Ok.fuel
  | succ n ih =>
    unfold updateOpsLoop
    ok_walk [updateOp_ok, ih, hb]

theorem whereAndIf_ok (fuel : Nat) (s : LS) (t : Nat) (hb : s.sawNonIdem = b) : Ok3 b (whereAndIf L fuel s t) := by
  unfold whereAndIf
  ok_walk [whereClause_ok, scanForIf_ok, hb]

theorem insertStmt_ok (fuel : Nat) (s : LS) (hb : s.sawNonIdem = b) : Ok3 b (insertStmt L fuel s) := by
  unfold insertStmt
  ok_walk [termsUntilRparen_ok, scanForIf_ok, hb]

theorem updateStmt_ok (fuel : Nat) (s : LS) (hb : s.sawNonIdem = b) : Ok3 b (updateStmt L fuel s) := by
  unfold updateStmt
  ok_walk [updateOpsLoop_ok, whereAndIf_ok, hb]

theorem deleteOpsLoop_ok (fuel : Nat) (s : LS) (t : Nat) (hb : s.sawNonIdem = b) :
    Ok3 b (deleteOpsLoop L fuel s t) := by
  induction fuel generalizing s t b with
  | zero => exact Ok.fuel
  | succ n ih =>
    unfold deleteOpsLoop
    ok_walk [term_ok, ih, hb]

theorem deleteStmt_ok (fuel : Nat) (s : LS) (hb : s.sawNonIdem = b) : Ok3 b (deleteStmt L fuel s) := by
  unfold deleteStmt
  ok_walk [deleteOpsLoop_ok, whereAndIf_ok, hb]

theorem dispatch_ok (fuel : Nat) (s : LS) (t : Nat) {x : R × Nat × LS} (h : dispatch L fuel s t = some x)
    (hb : s.sawNonIdem = b) : Ok3 b x := by
  unfold dispatch at h
  repeat' split at h
  all_goals cases h
  · exact insertStmt_ok L _ _ hb
  · exact updateStmt_ok L _ _ hb
  · exact deleteStmt_ok L _ _ hb

theorem batchLoop_ok (fuel : Nat) (s : LS) (t : Nat) (hb : s.sawNonIdem = b) :
    Ok b (batchLoop L fuel s t) := by
  induction fuel generalizing s t b with
  | zero => exact Ok.fuel
  | succ n ih =>
    unfold batchLoop
    split
    · split
      · exact Ok.bad
      · next r t' s' h =>
        -- the loop goes on from the state behind a `;` that follows the child, not from the child's own
        ok_walk [(dispatch_ok L n s t h hb).congr (nextT_if_saw L s' (t' = tkEOS) t'), ih]
    · ok_walk [hb]

theorem batchStmt_ok (fuel : Nat) (s : LS) (hb : s.sawNonIdem = b) : Ok b (batchStmt L fuel s) := by
  unfold batchStmt
  ok_walk [batchLoop_ok, hb]

theorem identifiersRelation_wf (L : Lexer) (fuel : Nat) (s : LS) : WF (parseIdentifiersRelation L fuel s).1 :=
  (identifiersRelation_ok L fuel s rfl).wf

theorem updateOp_wf (L : Lexer) (fuel : Nat) (s : LS) (t : Nat) : WF (parseUpdateOp L fuel s t).1 :=
  (updateOp_ok L fuel s t rfl).wf

/-- `classify` with the final scanner state exposed -/
def classifyS (L : Lexer) (fuel : Nat) : R × LS :=
  let s : LS := { p := 0 }
  let (t, s) := nextT L s
  if t = tkSelect then ({ idem := true }, s)
  else if t = tkUse ∨ t = tkCreate ∨ t = tkAlter ∨ t = tkDrop then ({ idem := false }, s)
  else if t = tkBegin then batchStmt L fuel s
  else
    match dispatch L fuel s t with
    | none => (R.bad, s)
    | some (r, t, s') => ({ r with idem := r.idem && (t = tkEOF || t = tkEOS) }, s')

theorem classifyS_fst (L : Lexer) (fuel : Nat) : (classifyS L fuel).1 = classify L fuel := by
  unfold classifyS classify
  simp only [apply_ite Prod.fst]
  cases dispatch L fuel (nextT L { p := 0 }).2 (nextT L { p := 0 }).1 <;> rfl

theorem classifyS_ok (L : Lexer) (fuel : Nat) : Ok false (classifyS L fuel) := by
  unfold classifyS
  ok_walk [batchStmt_ok]
  intro _ _ _
  split
  · exact Ok.bad
  · next r t s' h =>
    have hd := dispatch_ok L fuel _ _ h rfl
    exact ⟨⟨fun he => by rw [show r.idem = false from hd.wf.h he]; rfl⟩,
      fun hi => hd.saw (Bool.and_eq_true_iff.1 hi).1⟩

/-- **unparseable_false**, for every lexer (every token stream) and every amount of fuel -/
theorem classify_wf (L : Lexer) (fuel : Nat) : WF (classify L fuel) :=
  classifyS_fst L fuel ▸ (classifyS_ok L fuel).wf

/-- **no_verdict_dropped**: a verdict "idempotent" leaves the flag down -/
theorem classify_sound_flag (L : Lexer) (fuel : Nat) (h : (classify L fuel).idem = true) :
    (classifyS L fuel).2.sawNonIdem = false :=
  (classifyS_ok L fuel).saw (classifyS_fst L fuel ▸ h)

end CqlVerif.Parser
