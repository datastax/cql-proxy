import CqlVerif.Lemmas.Ring
import CqlVerif.Model.Md5
/-!
# C10 — Virtual system.local / system.peers present a correct, mutually consistent ring
-/
namespace CqlVerif.C10
open CqlVerif.Ring CqlVerif.Select

/-- the offset of the last token stays within `MaxUint64`: with `q = MaxUint64 / (n+1)` and `n ≤ q` (as `n < 2^32`),
`n (q+1) = qn + n ≤ qn + q = q (n+1) ≤ MaxUint64` -/
theorem mul_tokenStep_le (numPeers i : Nat) (hn : numPeers < 4294967296) (hi : i ≤ numPeers) :
    i * tokenStep numPeers ≤ 18446744073709551615 := by
  have hq := Nat.div_mul_le_self 18446744073709551615 (numPeers + 1)
  have hqn : numPeers ≤ 18446744073709551615 / (numPeers + 1) := by
    rw [Nat.le_div_iff_mul_le (by omega)]
    have : numPeers * (numPeers + 1) ≤ 4294967295 * 4294967296 := Nat.mul_le_mul (by omega) (by omega)
    omega
  unfold tokenStep
  generalize 18446744073709551615 / (numPeers + 1) = q at hq hqn
  calc i * (q + 1) ≤ numPeers * (q + 1) := Nat.mul_le_mul_right _ hi
    _ = q * numPeers + numPeers := by rw [Nat.mul_succ, Nat.mul_comm]
    _ ≤ q * (numPeers + 1) := by rw [Nat.mul_succ]; omega
    _ ≤ _ := hq

/-- **tokens_ok** — for every ring size (any number of configured peers below 2^32) and every
node position: the computed token lies in `[MinInt64, MaxInt64]`, tokens strictly increase with
the address order, the first is the minimum token. -/
theorem tokens_ok (numPeers i : Nat) (hn : numPeers < 4294967296) (hi : i ≤ numPeers) :
    minInt64 ≤ token numPeers i ∧ token numPeers i ≤ 9223372036854775807 ∧
    token numPeers i < token numPeers (i + 1) ∧ token numPeers 0 = minInt64 := by
  have hs := mul_tokenStep_le numPeers i hn hi
  have hpos : 0 < tokenStep numPeers := Nat.succ_pos _
  simp only [token, minInt64, Int.natCast_add, Int.add_mul]
  omega

theorem mapOpt_eq_some {α β : Type} {f : α → Option β} {l : List α} {r : List β} (h : mapOpt f l = some r) :
    l.map f = r.map some := by
  induction l generalizing r with
  | nil => cases h; rfl
  | cons a t ih =>
    rw [mapOpt] at h
    split at h
    next b bs hb hbs => cases h; simp [hb, ih hbs]
    · cases h

theorem mapOpt_length {α β : Type} {f : α → Option β} {l : List α} {r : List β} (h : mapOpt f l = some r) :
    r.length = l.length := by
  simpa using (congrArg List.length (mapOpt_eq_some h)).symm

theorem mapOpt_mem {α β : Type} {f : α → Option β} {l : List α} {r : List β} (h : mapOpt f l = some r) :
    ∀ y ∈ r, ∃ x ∈ l, f x = some y := by
  intro y hy
  have : some y ∈ l.map f := mapOpt_eq_some h ▸ List.mem_map_of_mem hy
  simpa using this

theorem selCols_length {table : String} {cols : List Col} {s : Sel} {cs : List Col} (h : selCols table cols s = some cs) :
    cs.length = (selNames cols s).length := by
  induction s generalizing cs with
  | id n => obtain ⟨c, _, rfl⟩ := Option.map_eq_some_iff.mp h; rfl
  | alias s a ih =>
    obtain ⟨cs', h', rfl⟩ := Option.map_eq_some_iff.mp h
    simpa [selNames] using ih h'
  | _ => cases h; simp [selNames]

theorem filterColumns_length {table : String} {cols : List Col} {sels : List Sel} {fc : List Col}
    (h : filterColumns table cols sels = some fc) : fc.length = (sels.flatMap (selNames cols)).length := by
  induction sels generalizing fc with
  | nil => cases h; rfl
  | cons s ss ih =>
    rw [filterColumns] at h
    split at h
    next a b ha hb => cases h; simp [selCols_length ha, ih hb]
    · cases h

theorem row_width {table : String} {cols fc : List Col} {sels : List Sel} {f : String → Option Val} {r : List Val}
    (hfc : filterColumns table cols sels = some fc) (hr : rowOf (sels.flatMap (selNames cols)) f = some r) :
    r.length = fc.length := by
  rw [mapOpt_length hr, filterColumns_length hfc]

/-- **local_one_row** — a read of `system.local` that is answered with rows
returns exactly one row, with exactly as many values as advertised columns (projection order,
aliases, `*`, `count`, `now()` included), for every configuration and selector list -/
theorem local_one_row (c : Cfg) (nodes : List Node) (listen : String) (sels : List Sel) (cols : List Col) (rows : List (List Val))
    (h : answer c nodes listen "local" sels = .rows cols rows) :
    rows.length = 1 ∧ ∀ r ∈ rows, r.length = cols.length := by
  simp only [answer, ↓reduceIte] at h
  split at h
  · cases h
  next fc hfc =>
    split at h
    · cases h
    next r hr =>
      cases h
      exact ⟨rfl, fun r' hr' => by rw [List.mem_singleton.mp hr', row_width hfc hr]⟩

/-- **peers_rows** — a read of `system.peers` returns one row per node other than the proxy
itself, each of the advertised width -/
theorem peers_rows (c : Cfg) (nodes : List Node) (listen : String) (sels : List Sel) (cols : List Col) (rows : List (List Val))
    (h : answer c nodes listen "peers" sels = .rows cols rows) :
    rows.length = (nodes.filter (!·.isLocal)).length ∧ ∀ r ∈ rows, r.length = cols.length := by
  have hne : ("peers" = "local") = False := by decide
  simp only [answer, hne, ↓reduceIte] at h
  split at h
  · cases h
  next fc hfc =>
    split at h
    · cases h
    next rs hrs =>
      cases h
      refine ⟨mapOpt_length hrs, fun r hr => ?_⟩
      obtain ⟨p, _, hp⟩ := mapOpt_mem hrs r hr
      exact row_width hfc hp

/-- the proxy's own entry in the peers list is omitted: it never appears as a peer of itself
(clause by clause: no peers, the entry with the proxy's own address, an entry that becomes a node; the others are errors) -/
theorem self_not_a_peer (la : Addr) (dc : String) (own : Bool) (ps : List PeerCfg) (ns : List Node)
    (h : peerNodes (some la) dc own ps = .ok ns) : ∀ n ∈ ns, n.addr ≠ some la ∧ n.isLocal = false := by
  fun_induction peerNodes (some la) dc own ps generalizing ns
  case case1 => cases h; simp
  case case3 ih => exact ih ns h
  case case6 hne _ _ hrest ih =>
    cases h
    exact List.forall_mem_cons.mpr ⟨⟨fun e => hne e.symm, rfl⟩, ih _ hrest⟩
  all_goals cases h

/-- a proxy that leaves the tokens to be computed, in a shared list of at least two addresses that
names every peer's address once and its own among them: the ring is built, by sorting nodes whose
addresses are those of the list -/
theorem buildNodes_calc (c : Cfg) (a : Addr) (hr : c.rpc = some a) (ht : c.tokens = [])
    (hall : ∀ p ∈ c.peers, p.addr.isSome = true) (hnd : (c.peers.filterMap (·.addr)).Nodup)
    (ha : a ∈ c.peers.filterMap (·.addr)) (h2 : 2 ≤ c.peers.length) :
    ∃ l, buildNodes c = .ok (assignTokens c.peers.length 0 (sortNodes l)) ∧
      (l.map key).Perm (c.peers.filterMap (·.addr)) := by
  obtain ⟨ns, hok, hk⟩ := peerNodes_ok a (if c.dc = "" then c.clusterDC else c.dc) c.peers hall
  have hp : (a :: ns.map key).Perm (c.peers.filterMap (·.addr)) := by
    rw [hk, ← hnd.erase_eq_filter a]
    exact (List.perm_cons_erase ha).symm
  have hlen : 0 < ns.length := by
    have := hp.length_eq
    rw [length_addrs hall] at this
    simp at this; omega
  exact ⟨{ addr := some a, name := c.rpcName, dc := if c.dc = "" then c.clusterDC else c.dc,
           tokens := [toString minInt64], isLocal := true } :: ns, by simp [buildNodes, hr, ht, hok, hlen], hp⟩

/-- **proxies_agree** — two proxies configured with the same list of peer addresses (every entry
with an address, no address twice, each proxy's own address among them, at least two members,
neither configuring tokens by hand) build the same ring: the same addresses in the same order
with the same token each, whatever order the shared list is written in and whichever of them a
driver happens to ask. -/
theorem proxies_agree (cA cB : Cfg) (a b : Addr)
    (hA : cA.rpc = some a) (hB : cB.rpc = some b) (htA : cA.tokens = []) (htB : cB.tokens = [])
    (hshared : (cA.peers.filterMap (·.addr)).Perm (cB.peers.filterMap (·.addr)))
    (hallA : ∀ p ∈ cA.peers, p.addr.isSome = true) (hallB : ∀ p ∈ cB.peers, p.addr.isSome = true)
    (hnd : (cA.peers.filterMap (·.addr)).Nodup)
    (haIn : a ∈ cA.peers.filterMap (·.addr)) (hbIn : b ∈ cB.peers.filterMap (·.addr))
    (h2 : 2 ≤ cA.peers.length) :
    ∃ nA nB, buildNodes cA = .ok nA ∧ buildNodes cB = .ok nB ∧ nA.map view = nB.map view := by
  have hlen : cA.peers.length = cB.peers.length := by
    rw [← length_addrs hallA, ← length_addrs hallB]; exact hshared.length_eq
  obtain ⟨lA, hokA, hpA⟩ := buildNodes_calc cA a hA htA hallA hnd haIn h2
  obtain ⟨lB, hokB, hpB⟩ := buildNodes_calc cB b hB htB hallB (hshared.nodup_iff.mp hnd) hbIn (hlen ▸ h2)
  refine ⟨_, _, hokA, hokB, ?_⟩
  rw [hlen]
  exact ring_agreement (hpA.trans (hshared.trans hpB.symm))

/-- non-vacuity: three proxies' shared list, the middle address is this proxy: tokens follow the
address order starting at the minimum token -/
example : (buildNodes { rpc := some [10, 0, 0, 2], rpcName := "b", peers :=
      [{ addr := some [10, 0, 0, 3], name := "c", dc := "dc2" }, { addr := some [10, 0, 0, 1], name := "a", dc := "dc1" },
       { addr := some [10, 0, 0, 2], name := "b" }] }).toOption.map (·.map fun n => (n.name, n.isLocal, n.tokens)) =
    some [("a", false, ["-9223372036854775808"]), ("b", true, ["-4611686018427387904"]), ("c", false, ["0"])] := by
  decide +kernel

section HostId
open CqlVerif.Md5

theorem le32_length (x : UInt32) : (le32 x).length = 4 := rfl
theorem md5_length (msg : List UInt8) : (md5 msg).length = 16 := by
  simp [md5, le32_length]

/-- `b & m | v` keeps the bits of `v` above those of the mask `m`: the shift that reads them distributes over both operations -/
theorem stamp_bits (b m v : UInt8) (k : Nat) (hm : m.toNat >>> k = 0) :
    ((b &&& m) ||| v).toNat / 2 ^ k = v.toNat / 2 ^ k := by
  rw [← Nat.shiftRight_eq_div_pow, ← Nat.shiftRight_eq_div_pow]
  simp [Nat.shiftRight_or_distrib, Nat.shiftRight_and_distrib, hm]

/-- **host_id_is_version3_uuid** — for every address text: the host id the proxy presents is 16 bytes, its version
nibble is 3, its variant bits are `10` (RFC 4122), and every other byte is the MD5 digest's: a
deterministic function of the address and nothing else (no clock, no randomness, no dependence on which proxy
computes it). -/
theorem host_id_is_version3_uuid (name : List UInt8) :
    (nameBasedUUID name).length = 16 ∧
    ((nameBasedUUID name).getD 6 0).toNat / 16 = 3 ∧ ((nameBasedUUID name).getD 8 0).toNat / 64 = 2 ∧
    ∀ i, i ≠ 6 → i ≠ 8 → (nameBasedUUID name).getD i 0 = (md5 name).getD i 0 := by
  simp only [nameBasedUUID, stamp, List.getD_eq_getElem?_getD, List.getElem?_set, List.length_set, md5_length]
  exact ⟨trivial, stamp_bits _ 0x0F 0x30 4 rfl, stamp_bits _ 0x3F 0x80 6 rfl, fun i h6 h8 => by rw [if_neg (Ne.symm h8), if_neg (Ne.symm h6)]⟩

/-- the MD5 of Model/Md5 on six of the seven test vectors of RFC 1321, A.5 (kernel-evaluated), and on an address -/
example : hex (md5 []) = "d41d8cd98f00b204e9800998ecf8427e" ∧ hex (md5 [97]) = "0cc175b9c0f1b6a831c399e269772661" ∧
    hex (md5 [97, 98, 99]) = "900150983cd24fb0d6963f7d28e17f72" ∧
    hex (md5 "message digest".toUTF8.toList) = "f96b697d7cb7938d525a2f31aaf161d0" ∧
    hex (md5 "abcdefghijklmnopqrstuvwxyz".toUTF8.toList) = "c3fcd3d76192e4007dfb496cca67e13b" ∧
    hex (md5 "12345678901234567890123456789012345678901234567890123456789012345678901234567890".toUTF8.toList) = "57edf4a22be3c955ac49da2e2107b67a" ∧
    hex (nameBasedUUID "127.0.0.1".toUTF8.toList) = "f528764d624d3129b32c21fbca0cb8d6" := by
  decide +kernel
end HostId

end CqlVerif.C10
