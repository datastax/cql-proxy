import CqlVerif.Spec.LockDiscipline
import CqlVerif.Gen.LockFacts
import CqlVerif.Lemmas.Lockset
import CqlVerif.Lemmas.StrCode
/-!
# C18 — Concurrent operation is free of data races
-/
namespace CqlVerif.C18
open CqlVerif.LockDiscipline

/-- **discipline_holds** — every access to a shared field of the tracked structs that the
extractor finds in /repo's current source and classifies as a read or a write obeys the field's declared
discipline: a guarded field is written with its lock held in write mode (or on the start-up thread alone)
and read with it held (or on its single writer's goroutine), a confined field is touched by one goroutine
only, a start-up field is not written once serving has begun; a field written anywhere without a declared
discipline fails the theorem.  (`factOk` lets pass the accesses whose kind is neither: `?` in the facts.) -/
theorem discipline_holds :
    (fields Gen.LockFacts.facts).all (fieldOk Gen.LockFacts.facts) = true := by
  -- lay open where the discipline compares strings, and let the kernel compare their codes instead
  delta fields fieldOk lookup factOk isWrite isRead subset
  rw [StrCode.decEq_eq]
  decide +kernel

/-- non-vacuity: the session table is among the checked fields, and the shape of the historical
defect (the map written with only the read lock held) is rejected -/
example : (fields Gen.LockFacts.facts).contains "proxy.Proxy.sessions" = true := by
  -- membership in the facts themselves: evaluating `eraseDups` is quadratic in string comparisons
  rw [List.contains_iff_mem, fields, List.mem_eraseDups]
  decide +kernel
example : factOk (.guarded "proxy.Proxy.sessionsMu" [] [])
    ("proxy.Proxy.sessions", "W(map)", ["proxy.Proxy.sessionsMu/R"], "(*proxy.Proxy).maybeCreateSessionUnlocked",
     ["(*proxycore.Conn).read>(*proxy.client).Receive"]) = false := by decide +kernel

/-- **guarded_accesses_ordered** — what the discipline buys, for every execution of every number
of goroutines (traces of lock operations admitted by Go's mutex semantics and plain accesses):
whenever a goroutine accesses a variable while holding the variable's lock, and another goroutine
accesses it later while holding the same lock, one of them in write mode - which is the case for
every conflicting pair when writers hold the write lock - the first goroutine's unlock and the
second one's subsequent lock lie between the two accesses: the pair is ordered by happens-before
and is not a data race. -/
theorem guarded_accesses_ordered (tr mid : List Lockset.Ev) (H H2 : Lockset.Held)
    (t1 t2 : Nat) (l : Nat) (m1 m2 : Bool)
    (hreach : Lockset.steps [] tr = some H)                 -- the state at the first access
    (h1 : (t1, l, m1) ∈ H)                                   -- … made while holding l
    (hmid : Lockset.steps H mid = some H2)                   -- what happens until the second access
    (h2 : (t2, l, m2) ∈ H2)                                  -- … made while holding l
    (hne : t1 ≠ t2) (hw : m1 = true ∨ m2 = true) :
    ∃ a b c, mid = a ++ Lockset.Ev.rel t1 l m1 :: (b ++ Lockset.Ev.acq t2 l m2 :: c) :=
  Lockset.ordered_by_unlock_lock (Lockset.reachable_inv hreach) h1 hmid h2 hne hw

end CqlVerif.C18
