import CqlVerif.Lemmas.Grammar
/-
Lemmas.GrammarWhere — the WHERE clause of an UPDATE or DELETE: relations `column <op> term` and `column IN (terms)`
joined by AND, through `parseRelation` / `parseWhereLoop`.
-/
namespace CqlVerif.Ast
open CqlVerif.Parser CqlVerif.Gen.Lex

variable {L : Lexer} {s : LS} {tl rest tail : List Tok} {fuel n : Nat}

/-- the operator of a comparison is one of the six of `isOperator` -/
def Rel.wf : Rel → Prop
  | .cmp _ op _ => isOperator op = true
  | .inList _ _ => True

def relsNonIdem (rs : List Rel) : Bool := rs.any Rel.nonIdem

theorem rel_pos {u : Nat} (hi : (parseRelation L fuel s u).1.idem = true) : ∃ n, fuel = n + 1 :=
  Nat.exists_eq_succ_of_ne_zero fun h => by simp [h, parseRelation, R.fuel] at hi

theorem rel_sound (r : Rel) (hwf : r.wf) (hA : At L s.p (r.render rest))
    (hi : (enter L (parseRelation L) fuel s).1.idem = true) :
    r.nonIdem = false ∧ At L (enter L (parseRelation L) fuel s).2.p rest := by
  cases r with
  | cmp c op t =>
    rw [Rel.render] at hA
    rw [enter_eq hA] at hi ⊢
    obtain ⟨n, rfl⟩ := rel_pos hi
    have e : parseRelation L (n+1) (s.adv (idt c)) tkIdentifier =
        andThen (parseTerm L n (((s.adv (idt c)).adv (k op)).adv t.head) t.head.kind) (·.2) fun q =>
          ({ idem := true }, q.2) := by
      have hop : isOperator op = true := hwf
      simp only [isOperator, Bool.or_eq_true, decide_eq_true_eq] at hop
      rw [parseRelation]
      simp only [hA.next.read, hA.next.next.read_term]
      rcases hop with ((((h | h) | h) | h) | h) | h <;> subst h <;> rfl
    rw [e] at hi ⊢
    obtain ⟨hn, q, e2, hA'⟩ := (term_sound t).step hA.next.next fed_adv (.inl hi)
    rw [e2]; exact ⟨hn, hA'⟩
  | inList c ts =>
    rw [Rel.render] at hA
    rw [enter_eq hA] at hi ⊢
    obtain ⟨n, rfl⟩ := rel_pos hi
    have e : parseRelation L (n+1) (s.adv (idt c)) tkIdentifier =
        andThen (enter L (parseTermsUntilRparen L) n (((s.adv (idt c)).adv (k tkIn)).adv (k tkLparen))) (·.2) fun q =>
          if q.1 ≠ tkRparen then (R.bad, q.2) else ({ idem := true }, q.2) := by
      rw [parseRelation]
      simp (decide := true) only [hA.next.read, hA.next.next.read, ↓reduceIte]
      rfl
    rw [e] at hi ⊢
    obtain ⟨hn, s', e2, hA'⟩ := terms_enter (termsUntil_is L) ts (terms_all ts) n _ rest hA.next.next.next (.inl (andThen_idem hi).1)
    rw [andThen_ok (by rw [e2]), e2]
    exact ⟨hn, hA'⟩

theorem rel_head (r : Rel) (rest : List Tok) : ∃ c tl, r.render rest = idt c :: tl := by
  cases r <;> exact ⟨_, _, rfl⟩

theorem where_pos {u : Nat} (hi : (parseWhereLoop L fuel s u).1.idem = true) : ∃ n, fuel = n + 1 :=
  Nat.exists_eq_succ_of_ne_zero fun h => by simp [h, parseWhereLoop, R.fuel] at hi

theorem where_step {c : Ident} (hA : At L s.p (idt c :: tl)) : enter L (parseWhereLoop L) (n+1) s =
    andThen (enter L (parseRelation L) n s) (fun s => (tkInvalid, s)) fun s => contOf L (parseWhereLoop L) tkAnd n s := by
  rw [enter_eq hA, enter_eq hA, parseWhereLoop]; simp (decide := true) only [↓reduceIte]; rfl

theorem where_round (r : Rel) (hwf : r.wf) (hA : At L s.p (r.render rest))
    (hi : (enter L (parseWhereLoop L) fuel s).1.idem = true) :
    r.nonIdem = false ∧
      ∃ n s', enter L (parseWhereLoop L) fuel s = contOf L (parseWhereLoop L) tkAnd n s' ∧ At L s'.p rest := by
  obtain ⟨n, rfl⟩ := where_pos hi
  obtain ⟨c, tl, er⟩ := rel_head r rest
  rw [where_step (er ▸ hA)] at hi ⊢
  obtain ⟨hr, e⟩ := andThen_idem hi
  obtain ⟨hn, hA'⟩ := rel_sound r hwf hA hr
  exact ⟨hn, n, _, e, hA'⟩

theorem rels_sound : (rs : List Rel) → (∀ r ∈ rs, r.wf) → ∀ (fuel : Nat) (s : LS),
    At L s.p (renderRels rs rest) → (enter L (parseWhereLoop L) fuel s).1.idem = true → relsNonIdem rs = false
  | [], _, _, _, _, _ => rfl
  | [r], hall, fuel, s, hA, hi => by
    obtain ⟨hn, _⟩ := where_round r (hall r (List.mem_cons_self ..)) hA hi
    simp [relsNonIdem, hn]
  | r :: r2 :: more, hall, fuel, s, hA, hi => by
    obtain ⟨hn, n, s', e, hA'⟩ := where_round r (hall r (List.mem_cons_self ..)) hA hi
    rw [e, contOf_sep hA'] at hi
    have ih := rels_sound (r2 :: more) (fun r hr => hall r (List.mem_cons_of_mem _ hr)) n _ hA'.next hi
    simp only [relsNonIdem, List.any_cons, Bool.or_eq_false_iff] at ih ⊢
    exact ⟨hn, ih⟩

theorem whereAndIf_sound {rels : List Rel} (hwf : ∀ r ∈ rels, r.wf) (hA : At L s.p (renderRels rels tail))
    (hi : (whereAndIf L fuel s tkWhere).1.idem = true) : relsNonIdem rels = false := by
  have e : whereAndIf L fuel s tkWhere =
      andThen (enter L (parseWhereLoop L) fuel s) (fun q => (tkInvalid, q.2)) fun q => scanForIf L fuel q.2 q.1 := rfl
  rw [e] at hi
  exact rels_sound rels hwf fuel s hA (andThen_idem hi).1

/-- a delete without selectors: `FROM [ks.]t` is read (there is no USING clause), `WHERE` and what follows remain -/
theorem deleteStmt_eq {ks : Option Ident} {table : Ident} (hA : At L s.p (k tkFrom :: renderName ks table (k tkWhere :: tl))) :
    ∃ s' : LS, At L s'.p tl ∧ deleteStmt L (n+1) s = whereAndIf L (n+1) s' tkWhere := by
  obtain ⟨s₀, s₁, hr, hq, hA2⟩ := read_name (b := k tkWhere) (by decide) hA.next
  refine ⟨_, hA2.next, ?_⟩
  rw [deleteStmt]
  simp (decide := true) only [hA.read, deleteOpsLoop, hr, hq, parseUsingClause, ne_eq, false_and, Bool.not_true,
    Bool.false_eq_true, ↓reduceIte]

end CqlVerif.Ast
