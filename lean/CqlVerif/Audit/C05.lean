import CqlVerif.Props.C05
#print axioms CqlVerif.C05.policy_closed_form
#print axioms CqlVerif.C05.onReadTimeout_iff
#print axioms CqlVerif.C05.onWriteTimeout_iff
#print axioms CqlVerif.C05.onUnavailable_iff
#print axioms CqlVerif.C05.onErrorResponse_iff
#print axioms CqlVerif.C05.attempts_bounded
#print axioms CqlVerif.C05.attempts_bounded_plain
#print axioms CqlVerif.C05.failover_success
#print axioms CqlVerif.C05.terminates
#print axioms CqlVerif.C05.samehost_removed_moves_on
