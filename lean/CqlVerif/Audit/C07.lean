import CqlVerif.Props.C07
#print axioms CqlVerif.C07.getSession_clients
#print axioms CqlVerif.C07.getSession_spec
#print axioms CqlVerif.C07.forward_uses_current
#print axioms CqlVerif.C07.use_failure_frame
#print axioms CqlVerif.C07.use_success
