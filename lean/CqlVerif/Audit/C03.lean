import CqlVerif.Props.C03
#print axioms CqlVerif.C03.header_roundtrip
#print axioms CqlVerif.C03.restream_transparent
#print axioms CqlVerif.C03.forward_transparent
#print axioms CqlVerif.C03.forward_length
