import CqlVerif.Model.Ring
/-
Lemmas.Ring — `addrLt` is the lexicographic order on `List Nat`, which core Lean knows to be linear;
insertion by it sorts, and a sorted list is determined by its members: two proxies that start from
the same addresses arrive at the same sequence, hence at the same token for every address.
-/
namespace CqlVerif.Ring

theorem addrLt_iff {a b : Addr} : addrLt a b = true ↔ a < b := by
  fun_induction addrLt a b <;> simp [List.cons_lt_cons_iff, *] <;> omega

def key (n : Node) : Addr := n.addr.getD []

theorem insertSorted_perm (n : Node) (l : List Node) : (insertSorted n l).Perm (n :: l) := by
  induction l with
  | nil => exact .refl _
  | cons h t ih =>
    rw [insertSorted]
    split
    · exact .refl _
    · exact (ih.cons h).trans (.swap n h t)

theorem sortNodes_perm (l : List Node) : (sortNodes l).Perm l := by
  induction l with
  | nil => exact .refl _
  | cons a t ih => exact (insertSorted_perm a _).trans (ih.cons a)

def Sorted (l : List Node) : Prop := l.Pairwise (fun a b => key a ≤ key b)

theorem insertSorted_sorted (n : Node) (l : List Node) (hs : Sorted l) : Sorted (insertSorted n l) := by
  induction l with
  | nil => exact List.pairwise_singleton _ _
  | cons h t ih =>
    have ⟨hh, ht⟩ := List.pairwise_cons.mp hs
    rw [insertSorted]
    split
    next hlt =>
      have hnh : key n ≤ key h := Std.le_of_lt (addrLt_iff.mp hlt)
      exact List.pairwise_cons.mpr ⟨List.forall_mem_cons.mpr ⟨hnh, fun m hm => Std.le_trans hnh (hh m hm)⟩, hs⟩
    next hnlt =>
      refine List.pairwise_cons.mpr ⟨fun m hm => ?_, ih ht⟩
      rcases List.mem_cons.mp ((insertSorted_perm n t).subset hm) with rfl | hm
      · exact mt addrLt_iff.mpr hnlt
      · exact hh m hm

theorem sortNodes_sorted (l : List Node) : Sorted (sortNodes l) := by
  induction l with
  | nil => exact .nil
  | cons a t ih => exact insertSorted_sorted a _ ih

/-- what a driver sees of a node: its address and its tokens -/
def view (n : Node) : Addr × List String := (key n, n.tokens)

theorem assignTokens_view (numPeers i : Nat) (l : List Node) :
    (assignTokens numPeers i l).map view =
      ((l.map key).zipIdx i).map fun (a, j) => (a, [toString (token numPeers j)]) := by
  induction l generalizing i with
  | nil => rfl
  | cons a t ih => simp [assignTokens, view, key, ih]

theorem ring_agreement {n : Nat} {lA lB : List Node} (hperm : (lA.map key).Perm (lB.map key)) :
    (assignTokens n 0 (sortNodes lA)).map view = (assignTokens n 0 (sortNodes lB)).map view := by
  have hp := ((sortNodes_perm lA).map key).trans (hperm.trans ((sortNodes_perm lB).map key).symm)
  rw [assignTokens_view, assignTokens_view, hp.eq_of_pairwise (fun _ _ _ _ => Std.le_antisymm)
    (List.pairwise_map.mpr (sortNodes_sorted lA)) (List.pairwise_map.mpr (sortNodes_sorted lB))]

/-- the peer loop of `buildNodes` when this proxy computes the tokens itself: it succeeds as long as
every peer has an address, and yields the peers other than this proxy, in configuration order -/
theorem peerNodes_ok (a : Addr) (dc : String) (peers : List PeerCfg) (hall : ∀ p ∈ peers, p.addr.isSome = true) :
    ∃ ns, peerNodes (some a) dc false peers = .ok ns ∧
      ns.map key = (peers.filterMap (·.addr)).filter (fun x => x != a) := by
  induction peers with
  | nil => exact ⟨[], rfl, rfl⟩
  | cons p ps ih =>
    obtain ⟨ns, hns, hk⟩ := ih (fun q hq => hall q (List.mem_cons_of_mem _ hq))
    obtain ⟨x, hx⟩ := Option.isSome_iff_exists.mp (hall p List.mem_cons_self)
    by_cases e : a = x
    · subst e; simp [peerNodes, hx, hns, hk]
    · simp [peerNodes, hx, hns, hk, key, e, Ne.symm e]

theorem length_addrs {peers : List PeerCfg} (hall : ∀ p ∈ peers, p.addr.isSome = true) :
    (peers.filterMap (·.addr)).length = peers.length := by
  rw [List.length_filterMap_eq_countP, List.countP_eq_length]
  exact hall

end CqlVerif.Ring
