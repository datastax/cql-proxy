import CqlVerif.Props.C14
#print axioms CqlVerif.C14.step_inv
#print axioms CqlVerif.C14.reachable_inv
#print axioms CqlVerif.C14.registry_inv
#print axioms CqlVerif.C14.fanout_exact
#print axioms CqlVerif.C14.no_topology_forward
#print axioms CqlVerif.C14.disconnect_isolated
#print axioms CqlVerif.C14.register_other_types
#print axioms CqlVerif.C14.qstep_inv
#print axioms CqlVerif.C14.hand_over_conserves
#print axioms CqlVerif.C14.Registers.stop
#print axioms CqlVerif.C14.Registers.after
#print axioms CqlVerif.C14.finish_registers
#print axioms CqlVerif.C14.challenge_registers
#print axioms CqlVerif.C14.initialResponse_registers
#print axioms CqlVerif.C14.startup_registers
#print axioms CqlVerif.C14.control_handshake_registers
#print axioms CqlVerif.C14.pooled_handshake_never_registers
#print axioms CqlVerif.C14.stepDown_floor
