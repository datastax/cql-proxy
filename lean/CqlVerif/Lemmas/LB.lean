import Mathlib.Data.List.Rotate
import CqlVerif.Model.LB
/-
Lemmas.LB — `n` calls of `Next` on a plan are the host list read round from the plan's offset (`Plan.take_of_le`), so a
drained fresh plan is the host list rotated (`drain_eq_rotate`); `removeFirst` is `List.erase`.
-/
namespace CqlVerif.LB

theorem Plan.take_of_le (n : Nat) (p : Plan) (h : p.index + n ≤ p.hosts.length) :
    Plan.take n p =
      ((List.range' p.index n).map fun i => p.hosts[(p.offset % p.hosts.length + i) % p.hosts.length]?,
       { p with index := p.index + n }) := by
  induction n generalizing p with
  | zero => rfl
  | succ n ih =>
    have hlt : ¬ p.index ≥ p.hosts.length := by omega
    simp [Plan.take, Plan.next, hlt, ih { p with index := p.index + 1 } (by simp; omega), List.range'_succ,
      Nat.add_assoc, Nat.add_comm 1 n]

theorem rotate_eq_map_range {α : Type} (l : List α) (k : Nat) :
    (l.rotate k).map some = (List.range l.length).map fun j => l[(k + j) % l.length]? := by
  apply List.ext_getElem?
  intro j
  by_cases hj : j < l.length
  · have hlt : (j + k) % l.length < l.length := Nat.mod_lt _ (by omega)
    simp [hj, Nat.add_comm k j, List.getElem?_eq_getElem hlt]
  · simp [hj]

theorem drain_eq_rotate (hosts : List Key) (off : Nat) :
    Plan.drain { hosts := hosts, offset := off, index := 0 } = (hosts.rotate off).map some := by
  rw [Plan.drain, Plan.take_of_le _ _ (by simp), rotate_eq_map_range, List.range_eq_range']
  simp

theorem next_fresh (hosts : List Key) (off : Nat) :
    (Plan.next { hosts := hosts, offset := off, index := 0 }).1 = hosts[off % hosts.length]? := by
  cases hosts <;> simp [Plan.next]

theorem removeFirst_eq_erase (k : Key) (l : List Key) : removeFirst k l = l.erase k := by
  induction l with
  | nil => rfl
  | cons h t ih => simp [removeFirst, List.erase_cons, ih]

theorem removeFirst_eq_filter {k : Key} {l : List Key} (h : l.Nodup) :
    removeFirst k l = l.filter (· ≠ k) := by
  rw [removeFirst_eq_erase, h.erase_eq_filter]
  exact List.filter_congr fun x _ => by simp [bne, Bool.beq_eq_decide_eq]

end CqlVerif.LB
