import CqlVerif.Props.C17
#print axioms CqlVerif.C17.sites_justified
#print axioms CqlVerif.C17.lexer_sites
#print axioms CqlVerif.C17.stores_typed
#print axioms CqlVerif.C17.Go.pure_eq
#print axioms CqlVerif.C17.Go.ret_bind
#print axioms CqlVerif.C17.Go.ok_ret
#print axioms CqlVerif.C17.goIndex_eq
#print axioms CqlVerif.C17.goSlice_eq
#print axioms CqlVerif.C17.goMod_eq
#print axioms CqlVerif.C17.identifierFromString_eq
#print axioms CqlVerif.C17.identifier_no_panic
#print axioms CqlVerif.C17.identifier_quoted
#print axioms CqlVerif.C17.queryHostsLocal_eq
#print axioms CqlVerif.C17.queryHosts_no_panic
#print axioms CqlVerif.C17.queryHosts_hosts_nonempty
#print axioms CqlVerif.C17.leastBusyIdx_lt
#print axioms CqlVerif.C17.leastBusy_no_panic
#print axioms CqlVerif.C17.fillChildren_no_panic
#print axioms CqlVerif.C17.countArg_no_panic
#print axioms CqlVerif.C17.planNext_no_panic
#print axioms CqlVerif.C17.takeN_length
#print axioms CqlVerif.C17.readInt_length
#print axioms CqlVerif.C17.readShort_length
#print axioms CqlVerif.C17.skipValue_length
#print axioms CqlVerif.C17.skipValues_length
#print axioms CqlVerif.C17.skipPositionalValues_suffix
#print axioms CqlVerif.C17.malformed_closed
#print axioms CqlVerif.C17.routed_wellformed
#print axioms CqlVerif.C17.isolation
#print axioms CqlVerif.C17.lock_order_ranked
#print axioms CqlVerif.C17.sends_under_lock_allowed
#print axioms CqlVerif.C17.no_lock_deadlock
#print axioms CqlVerif.C17.starved_step
#print axioms CqlVerif.C17.nonreading_client_starves_others
