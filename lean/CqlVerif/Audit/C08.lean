import CqlVerif.Props.C08
#print axioms CqlVerif.C08.execPlan_reply
#print axioms CqlVerif.C08.execute_answered
#print axioms CqlVerif.C08.unprepared_recovered
#print axioms CqlVerif.C08.execPlan_cache
#print axioms CqlVerif.C08.cache_filled
#print axioms CqlVerif.C08.good_host_rest
#print axioms CqlVerif.C08.execute_succeeds
#print axioms CqlVerif.C08.reprepare_error_moves_on
