/-
Lemmas.Deadlock — why acquiring locks in rank order excludes a lock deadlock.

A state: which locks each goroutine holds and which one (if any) it is waiting for.  The discipline
(`Ranked`): a goroutine that waits for a lock holds only locks of strictly smaller rank - what
`C17.lock_order_ranked` establishes for the regenerated acquisition facts.  A deadlock is a cycle
of goroutines each waiting for a lock the next one holds.  `no_deadlock_of_ranked`: under the
discipline there is none, whatever the ranks are (read locks are treated as exclusive, which only
makes more cycles count as deadlocks).
-/
namespace CqlVerif.Deadlock

abbrev Thread := Nat
abbrev Lock := Nat

structure St where
  holds : Thread → List Lock
  waits : Thread → Option Lock

def Ranked (rank : Lock → Nat) (s : St) : Prop :=
  ∀ t l, s.waits t = some l → ∀ h ∈ s.holds t, rank h < rank l

/-- `t₀ … tₙ` (as `t :: ts`): every goroutine waits for a lock that the next one holds -/
def WaitChain (s : St) : Thread → List Thread → Prop
  | _, [] => True
  | t, u :: rest => (∃ l, s.waits t = some l ∧ l ∈ s.holds u) ∧ WaitChain s u rest

/-- along a chain, the lock the last goroutine waits for outranks everything the first one holds -/
theorem chain_rank {rank : Lock → Nat} {s : St} (hr : Ranked rank s) :
    ∀ (ts : List Thread) (t : Thread) (l' : Lock), WaitChain s t ts →
      s.waits ((t :: ts).getLast (by simp)) = some l' → ∀ h ∈ s.holds t, rank h < rank l' := by
  intro ts
  induction ts with
  | nil => exact fun t l' _ hl' => hr t l' hl'
  | cons u rest ih =>
    intro t l' ⟨⟨l, hw, hh⟩, hrest⟩ hl' h hht
    rw [List.getLast_cons_cons] at hl'
    exact Nat.lt_trans (hr t l hw h hht) (ih u l' hrest hl' l hh)

/-- **no_deadlock_of_ranked** — under the rank discipline no cycle of goroutines exists in which
each waits for a lock held by the next and the last waits for a lock held by the first -/
theorem no_deadlock_of_ranked (rank : Lock → Nat) (s : St) (hr : Ranked rank s)
    (t : Thread) (ts : List Thread) (hc : WaitChain s t ts)
    (hclose : ∃ l, s.waits ((t :: ts).getLast (by simp)) = some l ∧ l ∈ s.holds t) : False := by
  obtain ⟨l', hw', hh'⟩ := hclose
  exact Nat.lt_irrefl _ (chain_rank hr ts t l' hc hw' l' hh')

/-- non-vacuity: the discipline is satisfiable with goroutines that do wait, and a two-goroutine
cycle violates it -/
example : Ranked (fun l => l) { holds := fun t => if t = 0 then [1] else [2], waits := fun t => if t = 0 then some 2 else none } := by
  intro t l hw h hh
  by_cases h0 : t = 0 <;> simp [h0] at hw hh ⊢
  subst hw hh
  decide

example : ¬ Ranked (fun l => l) { holds := fun t => if t = 0 then [1] else [2], waits := fun t => if t = 0 then some 2 else some 1 } :=
  fun h => absurd (h 1 1 rfl 2 (by simp)) (by decide)

end CqlVerif.Deadlock
