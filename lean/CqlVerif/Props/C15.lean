import CqlVerif.Lemmas.LB
/-!
# C15 — Query plans visit each live host exactly once, in round-robin rotation

The model is `Model/LB.lean`, tied to `proxycore/lb.go` by the `lb` correspondence stream.
-/
namespace CqlVerif.C15
open CqlVerif.LB

/-- Notification histories as the cluster produces them: a bootstrap list without duplicate
keys, `add` only for keys that are not members (`mergeHosts` announces only new keys),
`remove` for anything. -/
def wfFrom (members : List Key) : List Ev → Prop
  | [] => True
  | .bootstrap hs :: es => hs.Nodup ∧ wfFrom hs es
  | .add h :: es => h ∉ members ∧ wfFrom (members ++ [h]) es
  | .remove h :: es => wfFrom (removeFirst h members) es

def runEvents (lb : LB) (evs : List Ev) : LB := evs.foldl onEvent lb

/-- Set-based reference membership. -/
def refMembers (members : List Key) : List Ev → List Key
  | [] => members
  | .bootstrap hs :: es => refMembers hs es
  | .add h :: es => refMembers (members ++ [h]) es
  | .remove h :: es => refMembers (members.filter (· ≠ h)) es

/-- Membership follows the history: for every well-formed notification history (any length,
any number of hosts) the balancer's host list has no duplicates and equals the reference
membership — in particular a removed host is gone and an added host is present. -/
theorem members_exact (lb : LB) (evs : List Ev) (hn : lb.hosts.Nodup) (hw : wfFrom lb.hosts evs) :
    (runEvents lb evs).hosts.Nodup ∧ (runEvents lb evs).hosts = refMembers lb.hosts evs := by
  induction evs generalizing lb with
  | nil => exact ⟨hn, rfl⟩
  | cons e es ih =>
    cases e with
    | bootstrap hs => exact ih { lb with hosts := hs } hw.1 hw.2
    | add h =>
      exact ih { lb with hosts := lb.hosts ++ [h] } (List.nodup_append_comm.mp (List.nodup_cons.mpr ⟨hw.1, hn⟩)) hw.2
    | remove h =>
      rw [refMembers, ← removeFirst_eq_filter hn]
      exact ih { lb with hosts := removeFirst h lb.hosts } (removeFirst_eq_erase h _ ▸ hn.erase h) hw

theorem removed_absent (lb : LB) (k : Key) (hn : lb.hosts.Nodup) :
    k ∉ (onEvent lb (.remove k)).hosts := by
  simp [onEvent, removeFirst_eq_erase, hn.mem_erase_iff]

/-- **plan_exact** — a new plan yields every current host exactly once (it is the host list
rotated by the plan's offset), whatever the counter value. -/
theorem plan_exact (lb : LB) :
    let p := (newPlan lb).1
    p.drain = (lb.hosts.rotate lb.index).map some ∧ p.drain.Perm (lb.hosts.map some) := by
  simp only [newPlan]
  rw [drain_eq_rotate]
  exact ⟨rfl, (List.rotate_perm _ _).map _⟩

theorem plan_no_duplicates (lb : LB) (hn : lb.hosts.Nodup) : ((newPlan lb).1.drain).Nodup :=
  (plan_exact lb).2.nodup_iff.mpr (hn.map (fun _ _ e => Option.some.inj e))

/-- After the hosts are used up the plan reports exhaustion forever (and does not change). -/
theorem exhausted_forever (p : Plan) (h : p.index ≥ p.hosts.length) (n : Nat) :
    Plan.take n p = (List.replicate n none, p) := by
  induction n with
  | zero => rfl
  | succ n ih => simp [Plan.take, Plan.next, h, ih, List.replicate_succ]

theorem drained_is_exhausted (lb : LB) :
    let p := (newPlan lb).1
    (Plan.take p.hosts.length p).2.index ≥ p.hosts.length := by
  simp [newPlan, Plan.take_of_le]

/-- **snapshot_stable** — a plan handed out keeps yielding the membership it was created
with, whatever notifications follow: `Next` does not read the balancer at all (`drain` takes the plan
alone, so `evs` cannot enter the conclusion). -/
theorem snapshot_stable (lb : LB) (evs : List Ev) :
    let p := (newPlan lb).1
    let _lb' := runEvents (newPlan lb).2 evs
    p.drain = (lb.hosts.rotate lb.index).map some := (plan_exact lb).1

/-- first choices of `n` consecutive plans -/
def firsts : Nat → LB → List (Option Key)
  | 0, _ => []
  | n+1, lb => let (p, lb') := newPlan lb; p.next.1 :: firsts n lb'

/-- **rotation** — under stable membership consecutive plans start at consecutive hosts: the
first choices of `n` consecutive plans are `hosts[(index + j) mod len]` (up to the physical
bound of 2^64 plans per process lifetime). -/
theorem rotation (lb : LB) (n : Nat) (hw : lb.index + n ≤ U64) :
    firsts n lb = ((List.range n).map fun j => lb.hosts[(lb.index + j) % lb.hosts.length]?) := by
  induction n generalizing lb with
  | zero => rfl
  | succ n ih =>
    simp only [firsts, newPlan, next_fresh, List.range_succ_eq_map, List.map_cons, List.map_map]
    cases n with
    | zero => rfl
    | succ n =>
      have hm : (lb.index + 1) % U64 = lb.index + 1 := Nat.mod_eq_of_lt (by omega)
      rw [ih _ (by simp only [hm]; omega)]
      simp only [hm, Nat.add_assoc, Nat.add_comm 1]
      rfl

/-- **fair_window** — any `len` consecutive plans under stable membership start at
every host exactly once. -/
theorem fair_window (lb : LB) (hw : lb.index + lb.hosts.length ≤ U64) :
    firsts lb.hosts.length lb = (lb.hosts.rotate lb.index).map some := by
  rw [rotation lb _ hw, rotate_eq_map_range]

/-- non-vacuity: a concrete three-host cluster after a real history -/
example :
    let lb := runEvents {} [.bootstrap ["a", "b"], .add "c", .remove "b", .add "d"]
    lb.hosts = ["a", "c", "d"] ∧ (newPlan (newPlan lb).2).1.drain = [some "c", some "d", some "a"] := by
  decide

/-- the pre-fix arithmetic (uint32 sum without reducing the offset first) visits a host twice:
kept as the witness of the repaired defect (known_findings.json, fixed). -/
example : let hosts := ["h0", "h1", "h2"]; let off := 4294967295
    (List.range 3).map (fun i => hosts[((off + i) % 4294967296) % 3]?) = [some "h0", some "h0", some "h1"] := by
  decide

end CqlVerif.C15
