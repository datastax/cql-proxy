import CqlVerif.Props.C01
#print axioms CqlVerif.C01.replies_le_one
#print axioms CqlVerif.C01.reply_on_own_stream
#print axioms CqlVerif.C01.reply_matches_request
#print axioms CqlVerif.C01.answered_when_attempts_answered
#print axioms CqlVerif.C01.unanswered_is_owned
#print axioms CqlVerif.C01.quiescent_all_answered
#print axioms CqlVerif.C01.accepted_send_is_owned
