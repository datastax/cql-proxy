import CqlVerif.Lemmas.GrammarStmt
/-
Lemmas.GrammarUpdate — `UPDATE … SET column = term, …`: the SET clause through `parseUpdateOp` / `updateOpsLoop`, in
both directions (any terms: no verdict "idempotent" over a non-deterministic call; plain terms: accepted).
-/
namespace CqlVerif.Ast
open CqlVerif.Parser CqlVerif.Gen.Lex

variable {L : Lexer} {s : LS} {a b : Tok} {tl rest : List Tok} {fuel n : Nat} {t : Term}

/-- one assignment `column = term`, the column name consumed: neither look-ahead (`column = other ± …` before the
term, `term + column` behind it) applies, provided the token behind the term is not `+`; `o` is what `parseTerm` returns -/
theorem assign_eq {o : R × TermType × LS} (hA : At L s.p (k tkEqual :: t.render rest))
    (ho : parseTerm L fuel ((remark (s.adv (k tkEqual))).adv t.head) t.head.kind = o)
    (hb : o.1.idem = true → (nextT L o.2.2).1 ≠ tkAdd) :
    parseUpdateOp L fuel s tkIdentifier = andThen o (·.2) fun q => ({ idem := true }, remark q.2) := by
  have hnot : ¬(t.head.kind = tkIdentifier ∧ ((nextT L ((mark (s.adv (k tkEqual))).adv t.head)).1 = tkAdd ∨
      (nextT L ((mark (s.adv (k tkEqual))).adv t.head)).1 = tkSub)) := by
    rintro ⟨hid, hop⟩
    rcases second_kind hA.next.mark hid with h | h <;> rw [h] at hop <;> exact absurd hop (by decide)
  rw [parseUpdateOp]
  simp (decide := true) only [hA.read, hA.next.mark.read_term, hnot, rewind_nextT, rewind_adv, rewind_mark,
    hA.next.remark.read_term, ho, ↓reduceIte]
  cases hr : o.1.idem with
  | false => simp [andThen, hr]
  | true => simp [andThen, hr, hb hr]

theorem ops_pos {u : Nat} (hi : (updateOpsLoop L fuel s u).1.idem = true) : ∃ n, fuel = n + 1 :=
  Nat.exists_eq_succ_of_ne_zero fun h => by simp [h, updateOpsLoop, R.fuel] at hi

theorem ops_step : updateOpsLoop L (n+1) s tkIdentifier =
    andThen (parseUpdateOp L n s tkIdentifier) (fun s => (tkInvalid, s)) fun s => contOf L (updateOpsLoop L) tkComma n s := by
  rw [updateOpsLoop]; simp (decide := true) only [↓reduceIte]; rfl

theorem ops_stop (hb : b.kind = tkWhere ∨ isDMLTerminator b.kind = true) (hA : At L s.p (b :: rest)) :
    contOf L (updateOpsLoop L) tkComma (n+1) s = ({ idem := true }, b.kind, s.adv b) := by
  have hc : b.kind ≠ tkComma := hb.elim (fun h => h ▸ by decide) fun h => ne_of_test h rfl
  rw [contOf_end hA hc, enter_eq hA, updateOpsLoop]
  rcases hb with h | h <;> simp [h]

variable {c : Ident}

/-- one round of the SET loop over `column = term`, from either side: the verdict is "idempotent", or the term is plain
and there is fuel for it -/
theorem ops_round (hb : b.kind ≠ tkAdd) (hA : At L s.p (idt c :: k tkEqual :: t.render (b :: rest)))
    (hi : (enter L (updateOpsLoop L) fuel s).1.idem = true ∨ t.plain = true ∧ t.size < fuel) :
    t.nonIdem = false ∧ ∃ n s', fuel = n + 1 ∧
      enter L (updateOpsLoop L) fuel s = contOf L (updateOpsLoop L) tkComma n s' ∧ At L s'.p (b :: rest) := by
  rw [enter_eq hA] at hi ⊢
  obtain ⟨n, rfl⟩ := hi.elim ops_pos fun h => Nat.exists_eq_add_one.mpr (Nat.zero_lt_of_lt h.2)
  have hs := term_sound t L n _ _ (b :: rest) hA.next.next.remark fed_adv
  rw [ops_step, assign_eq hA.next rfl fun hr => by rw [(hs hr).1.read]; exact hb] at hi ⊢
  obtain ⟨hn, q, e, hA'⟩ := (term_sound t).step hA.next.next.remark fed_adv
    (hi.imp (fun hi => (andThen_idem hi).1) fun h => ⟨term_complete t h.1, by omega⟩)
  rw [andThen_ok (by rw [e]), e]
  exact ⟨hn, n, _, rfl, rfl, hA'⟩

theorem assigns_tail_head (as : Assigns) (b0 : Tok) (r0 : List Tok) (hb0 : b0.kind ≠ tkAdd) :
    ∃ b rest, as.renderTail (b0 :: r0) = b :: rest ∧ b.kind ≠ tkAdd := by
  cases as with
  | nil => exact ⟨b0, r0, rfl, hb0⟩
  | cons c t as => exact ⟨k tkComma, _, rfl, by decide⟩

theorem assigns_enter {b0 : Tok} {r0 : List Tok} (hb0 : b0.kind ≠ tkAdd) :
    (as : Assigns) → ∀ (c : Ident) (t : Term) (fuel : Nat) (s : LS),
    At L s.p ((Assigns.cons c t as).renderElems (b0 :: r0)) → (enter L (updateOpsLoop L) fuel s).1.idem = true →
    (Assigns.cons c t as).nonIdem = false ∧
      ∃ n s', enter L (updateOpsLoop L) fuel s = contOf L (updateOpsLoop L) tkComma n s' ∧ At L s'.p (b0 :: r0)
  | .nil, c, t, fuel, s, hA, hi => by
    obtain ⟨hn, n, s', -, e, hA'⟩ := ops_round hb0 hA (.inl hi)
    exact ⟨by simp [Assigns.nonIdem, hn], n, s', e, hA'⟩
  | .cons c2 t2 as, c, t, fuel, s, hA, hi => by
    obtain ⟨hn, n, s', -, e, hA'⟩ := ops_round (b := k tkComma) (by decide) hA (.inl hi)
    rw [e, contOf_sep hA'] at hi ⊢
    obtain ⟨ih, r⟩ := assigns_enter hb0 as c2 t2 n _ hA'.next hi
    exact ⟨by simpa [Assigns.nonIdem, hn] using ih, r⟩

/-- `[ks.]t SET` is read (there is no USING clause); what remains is the SET clause, then WHERE and the scan for `IF` -/
theorem updateStmt_eq {ks : Option Ident} {table kw : Ident} (hkw : kw.equal "set" = true)
    (hA : At L s.p (renderName ks table (idt kw :: tl))) :
    ∃ s' : LS, At L s'.p tl ∧ updateStmt L fuel s =
      andThen (enter L (updateOpsLoop L) fuel s') (fun q => (tkInvalid, q.2)) fun q => whereAndIf L fuel q.2 q.1 := by
  obtain ⟨s₀, s₁, hr, hq, hA2⟩ := read_name (b := idt kw) (by decide : tkIdentifier ≠ tkDot) hA
  refine ⟨_, hA2.next, ?_⟩
  rw [updateStmt]
  simp (decide := true) only [hr, hq, parseUsingClause, isUnreservedKeyword, adv_idt_id, hkw, ne_eq, Bool.false_eq_true,
    ↓reduceIte]
  rfl

/-- `updateStmt_eq` for `IsQueryIdempotent` on a statement that is such an UPDATE -/
theorem classify_update {ks : Option Ident} {table kw : Ident} (hkw : kw.equal "set" = true)
    (hA : At L 0 (k tkUpdate :: renderName ks table (idt kw :: tl))) :
    ∃ s : LS, At L s.p tl ∧ classify L fuel = verdict
      (andThen (enter L (updateOpsLoop L) fuel s) (fun q => (tkInvalid, q.2)) fun q => whereAndIf L fuel q.2 q.1) := by
  obtain ⟨s, hA', e⟩ := updateStmt_eq (fuel := fuel) hkw (At.next (s := { p := 0 }) hA)
  exact ⟨s, hA', by simp (decide := true) [classify, dispatch, verdict, hA.read (s := { p := 0 }), e]⟩

theorem counter_op {c2 : Ident} {op : Nat} {arg : Tok} (hop : op = tkAdd ∨ op = tkSub)
    (harg : arg.kind = tkInteger ∨ arg.kind = tkQMark)
    (hA : At L s.p (k tkEqual :: idt c2 :: k op :: arg :: rest)) : (parseUpdateOp L fuel s tkIdentifier).1.idem = false := by
  rw [parseUpdateOp]
  have hop' : (k op).kind = tkAdd ∨ (k op).kind = tkSub := hop
  simp (decide := true) only [hA.read, hA.next.mark.read, hA.next.mark.next.read, hop', hA.next.mark.next.next.read,
    and_self, ↓reduceIte]
  cases fuel with
  | zero => simp [parseTerm, R.fuel]
  | succ n => rcases harg with h | h <;> rw [h] <;> simp [pt_int, pt_q, isIdempotentUpdateOpTermType]

def Assigns.plain : Assigns → Bool
  | .nil => true
  | .cons _ t as => t.plain && as.plain

def Assigns.size : Assigns → Nat
  | .nil => 0
  | .cons _ t as => 1 + t.size + as.size

theorem assigns_complete {b0 : Tok} {r0 : List Tok} (hb0 : b0.kind = tkWhere ∨ isDMLTerminator b0.kind = true) :
    (as : Assigns) → ∀ (c : Ident) (t : Term) (fuel : Nat) (s : LS),
    (Assigns.cons c t as).plain = true → (Assigns.cons c t as).size < fuel →
    At L s.p ((Assigns.cons c t as).renderElems (b0 :: r0)) →
    ∃ s' : LS, enter L (updateOpsLoop L) fuel s = ({ idem := true }, b0.kind, s'.adv b0) ∧ At L s'.p (b0 :: r0)
  | .nil, c, t, fuel, s, hpl, hf, hA => by
    simp only [Assigns.plain, Bool.and_true, Assigns.size] at hpl hf
    have hadd : b0.kind ≠ tkAdd := hb0.elim (fun h => h ▸ by decide) fun h => ne_of_test h rfl
    obtain ⟨-, n, s', rfl, e, hA'⟩ := ops_round (fuel := fuel) hadd hA (.inr ⟨hpl, by omega⟩)
    obtain _ | n := n
    · omega
    exact ⟨s', by rw [e, ops_stop hb0 hA'], hA'⟩
  | .cons c2 t2 as, c, t, fuel, s, hpl, hf, hA => by
    simp only [Assigns.plain, Bool.and_eq_true, Assigns.size] at hpl hf
    obtain ⟨-, n, s', rfl, e, hA'⟩ := ops_round (fuel := fuel) (b := k tkComma) (by decide) hA (.inr ⟨hpl.1, by omega⟩)
    rw [e, contOf_sep hA']
    exact assigns_complete hb0 as c2 t2 n _ (by simp [Assigns.plain, hpl.2]) (by simp only [Assigns.size]; omega) hA'.next

end CqlVerif.Ast
