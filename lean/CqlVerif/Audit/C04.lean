import CqlVerif.Props.C04
#print axioms CqlVerif.C04.no_unsafe_reexec
#print axioms CqlVerif.C04.no_unsafe_reexec_oracle
#print axioms CqlVerif.C04.unsafe_outcome_is_final
#print axioms CqlVerif.C04.retry_gate_shape_ok
