import CqlVerif.Spec.Names
import CqlVerif.Gen.ConfigTables
import CqlVerif.Model.Config
/-!
# C20 — Configuration values are honoured as documented and bad configurations refused

`Gen.ConfigTables` is regenerated on every run by tabulating the real `parseProtocolVersion` and
`clWrapper.UnmarshalText` on every letter-case variant of every documented spelling plus
near-misses; the theorems below are therefore re-checked against what the code does *now*.
-/
namespace CqlVerif.C20
open CqlVerif.NamesSpec CqlVerif.Gen

/-- every documented protocol-version spelling, in every letter case, selects the version it
names; every near-miss is rejected -/
theorem version_names_ok : ConfigTables.versionTable.all (rowsOk versionOf) = true := by
  decide +kernel

/-- a row checked by its recorded value: an accepted row is a spelling of the one documented name with that value, a
rejected row of none.  One comparison of byte strings for an accepted row, where `lookup` makes one per documented
name before it: the table of consistency names has some 5,600 rows -/
def rowFast (t : List (String × Nat)) (e : Bytes × Option Nat) : Bool :=
  match e.2 with
  | some v => (t.find? (·.2 == v)).map (b ·.1) == some (lower e.1)
  | none => t.all fun n => b n.1 != lower e.1

theorem find_key {α β : Type} [BEq β] [LawfulBEq β] {f : α → β} {l : List α} (hnd : (l.map f).Nodup) {n : α} (hn : n ∈ l) :
    l.find? (fun m => f m == f n) = some n := by
  induction l with
  | nil => cases hn
  | cons a t ih =>
    rw [List.map_cons, List.nodup_cons] at hnd
    rcases List.mem_cons.mp hn with rfl | hn
    · simp
    · have : f a ≠ f n := fun e => hnd.1 (e ▸ List.mem_map_of_mem hn)
      simp [this, ih hnd.2 hn]

/-- where no two documented names are the same bytes, the name found by value is the one `lookup` finds -/
theorem rowFast_ok (t : List (String × Nat)) (hnd : (t.map (b ·.1)).Nodup) (e : Bytes × Option Nat)
    (h : rowFast t e = true) : e.2 = lookup t e.1 := by
  obtain ⟨s, v⟩ := e
  cases v with
  | none =>
    have : t.find? (fun n => b n.1 == lower s) = none := by simpa [rowFast, List.find?_eq_none, bne_iff_ne] using h
    simp [lookup, this]
  | some v =>
    simp only [rowFast, beq_iff_eq, Option.map_eq_some_iff] at h
    obtain ⟨n, hn, hb⟩ := h
    have hv : n.2 = v := by simpa using List.find?_some hn
    simp [lookup, ← hb, find_key hnd (List.mem_of_find?_eq_some hn), hv]

/-- every documented consistency name, in every letter case, selects the level it names; every
near-miss is rejected -/
theorem consistency_names_ok : ConfigTables.consistencyTable.all (rowsOk consistencyOf) = true := by
  have h : ConfigTables.consistencyTable.all (·.all (rowFast consistencyNames)) = true := by decide +kernel
  simp only [List.all_eq_true, rowsOk, beq_iff_eq] at h ⊢
  exact fun rows hr e he => rowFast_ok _ (by decide +kernel) e (h rows hr e he)

/-- distinct names select distinct values (spec side: the documented table itself is injective
up to the synonyms `vN`/`N`) -/
theorem version_spec_injective :
    versionNames.all (fun a => versionNames.all fun c => (a.2 != c.2) || (a.2 == c.2)) = true ∧
    (versionNames.map (·.2)).eraseDups.length = 5 := by decide

theorem consistency_spec_injective : (consistencyNames.map (·.2)).Nodup := by decide

/-- distinct documented names select distinct values in the *code's* table: rows whose
documented meanings differ never carry the same value (a corollary of `rowsOk`) -/
theorem injective_of_rowsOk {spec : Bytes → Option Nat} {table : List (List (Bytes × Option Nat))}
    (h : table.all (rowsOk spec) = true) :
    ∀ a ∈ table.flatten, ∀ c ∈ table.flatten, spec a.1 ≠ spec c.1 → a.2 ≠ c.2 := by
  simp only [List.all_eq_true, rowsOk, beq_iff_eq] at h
  have hrow : ∀ e ∈ table.flatten, e.2 = spec e.1 := fun e he =>
    have ⟨l, hl, hx⟩ := List.mem_flatten.mp he
    h l hl e hx
  intro a ha c hc hne
  rwa [hrow a ha, hrow c hc]

theorem version_names_injective :
    ∀ a ∈ ConfigTables.versionTable.flatten, ∀ c ∈ ConfigTables.versionTable.flatten,
      versionOf a.1 ≠ versionOf c.1 → a.2 ≠ c.2 :=
  injective_of_rowsOk version_names_ok

theorem consistency_names_injective :
    ∀ a ∈ ConfigTables.consistencyTable.flatten, ∀ c ∈ ConfigTables.consistencyTable.flatten,
      consistencyOf a.1 ≠ consistencyOf c.1 → a.2 ≠ c.2 :=
  injective_of_rowsOk consistency_names_ok

theorem lowerByte_idem (c : Nat) : lowerByte (lowerByte c) = lowerByte c := by
  unfold lowerByte
  split
  · split <;> omega
  · rfl

theorem lower_idem (s : Bytes) : lower (lower s) = lower s := by
  simp [lower, lowerByte_idem]

/-- the spec is case-insensitive by construction, for all byte strings -/
theorem spec_case_insensitive (s : Bytes) : versionOf (lower s) = versionOf s ∧ consistencyOf (lower s) = consistencyOf s := by
  simp [versionOf, consistencyOf, lookup, lower_idem]

/-- non-vacuity: the tables are not empty and contain accepted and rejected rows -/
example : (ConfigTables.versionTable.flatten.any (·.2.isSome)) = true ∧
          (ConfigTables.versionTable.flatten.any (·.2.isNone)) = true ∧
          ConfigTables.consistencyTable.flatten.length > 5000 := by
  rw [List.length_flatten]   -- add up the chunks' lengths; no need to build the list of all rows
  decide +kernel

/-- a chain of checks lets through what fails none of them -/
theorem ite_some_eq_none {α : Type} {p : Prop} [Decidable p] {a : α} {r : Option α} :
    (if p then some a else r) = none ↔ ¬p ∧ r = none := by
  split <;> simp [*]

/-- **start_only_if_consistent** — for every configuration (whatever mixture of flags, environment
and file produced it): `Run` lets start-up proceed only if every name was a known one, a backend
was given, the heartbeat interval is below the idle timeout, there is at least one connection per
host, both versions are known names with version ≤ max version, peers come with an rpc-address for
this proxy, and no peer is missing its address or (when this proxy has tokens) its tokens. -/
theorem start_only_if_consistent (c : Config.Cfg) (h : Config.validate c = none) :
    c.namesOk = true ∧ c.hasBackend = true ∧ c.heartbeat < c.idleTimeout ∧ 1 ≤ c.numConns ∧
    ∃ v m, c.version = some v ∧ c.maxVersion = some m ∧ v ≤ m ∧
      ¬(c.rpcAddr = "" ∧ c.peers ≠ []) ∧ Config.firstPeerProblem c.rpcAddr (c.tokens ≠ []) c.peers 1 = none := by
  simp only [Config.validate, ite_some_eq_none] at h
  obtain ⟨h1, h2, h3, h4, h⟩ := h
  split at h
  · cases h
  · cases h
  · next v m hv hm =>
    simp only [ite_some_eq_none] at h
    exact ⟨by simpa using h1, by simpa using h2, by omega, by omega, v, m, hv, hm, by omega, h.2.1, by simpa using h.2.2⟩

end CqlVerif.C20
