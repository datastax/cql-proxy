import CqlVerif.Model.Core
/-
Lemmas.Core — the invariants of the concurrent core and what the handlers do to them.

Safety: the request view `Inv` (one reply per done request, on its own stream, for a frame sent for it)
and the per-connection bookkeeping `CInv`.  Liveness as a safety invariant: every request that has not
been answered is *owned* — a frame sent for it is on the wire of a live backend connection (the backend
will answer it or the connection will die), or it is registered on a dead connection whose `Closing` has
not run yet, or its `OnClose` notification is still due.  Nothing the handlers do lets a request slip
out of all three.

The handlers are compositions of three moves: update the request's record, send a frame for it, answer
it.  What each move does to each invariant is proved once; `Moves` says which sequences of moves a
handler for one request makes, each handler is shown to make such a sequence, and the invariants are
carried along `Moves`.
-/
namespace CqlVerif.Core
open CqlVerif.Retry

theorem upd_forall {α} {P : Nat → α → Prop} {f : Nat → α} {i : Nat} {v : α} (hf : ∀ j, P j (f j)) (hv : P i v) (j : Nat) :
    P j (upd f i v j) := by
  by_cases h : j = i
  · subst h; rw [upd_same]; exact hv
  · rw [upd_other _ _ _ _ h]; exact hf j

@[simp] theorem St.setReq_req (s : St) (r : ReqId) (q : Req) : (s.setReq r q).req r = q := upd_same ..
@[simp] theorem St.setConn_conn (s : St) (c : ConnId) (k : Conn) : (s.setConn c k).conn c = k := upd_same ..

/-- the replies logged for request `r` -/
def cnt (l : List Rep) (r : Nat) : Nat := l.countP (fun e => e.rid = r)

/-- the request view (requests, reply log):
 * every existing request has been answered exactly once iff it is done, nothing else is logged;
 * every reply is addressed to the client connection and stream of its request;
 * a forwarded backend frame was the answer to a frame sent for that request. -/
structure Inv (s : St) : Prop where
  one : ∀ r : Nat, cnt s.out r = (if r < s.nreq ∧ (s.req r).done = true then 1 else 0)
  addr : ∀ e ∈ s.out, e.client = (s.req e.rid).client ∧ e.cstream = (s.req e.rid).cstream
  orig : ∀ e ∈ s.out, ∀ hw, e.origin = some hw → hw.rid = e.rid

/-- request records that `Inv` cannot tell apart: same client address, same `done` -/
def Req.Alike (q q' : Req) : Prop := q.done = q'.done ∧ q.client = q'.client ∧ q.cstream = q'.cstream

theorem Inv.congr {s t : St} (h : Inv s) (hn : t.nreq = s.nreq) (ho : t.out = s.out) (hq : ∀ r, (t.req r).Alike (s.req r)) :
    Inv t := by
  refine ⟨fun r => ?_, fun e he => ?_, fun e he => h.orig e (ho ▸ he)⟩
  · rw [ho, hn, (hq r).1]; exact h.one r
  · rw [(hq e.rid).2.1, (hq e.rid).2.2]; exact h.addr e (ho ▸ he)

theorem Inv.setConn {s : St} {c : ConnId} {k : Conn} (h : Inv s) : Inv (s.setConn c k) :=
  h.congr rfl rfl fun _ => ⟨rfl, rfl, rfl⟩

theorem Inv.setReq {s : St} {r : ReqId} {q : Req} (h : Inv s) (hq : q.Alike (s.req r)) : Inv (s.setReq r q) :=
  h.congr rfl rfl <| upd_forall (P := fun x (q' : Req) => q'.Alike (s.req x)) (fun _ => ⟨rfl, rfl, rfl⟩) hq

/-- answering a not-yet-done request: exactly one more reply, addressed to its own stream -/
theorem Inv.finish {s : St} {r : ReqId} {o : Option Handle} (h : Inv s) (hr : r < s.nreq) (hnd : (s.req r).done = false)
    (ho : ∀ hw, o = some hw → hw.rid = r) : Inv (Core.finish s r o) := by
  refine ⟨fun x => ?_, fun e he => ?_, fun e he => ?_⟩
  · have hx := h.one x
    by_cases hxr : x = r
    · subst hxr
      simp only [cnt, hnd, Bool.false_eq_true, and_false, ↓reduceIte] at hx
      simp [Core.finish, cnt, St.setReq, hr, hx]
    · simpa [Core.finish, cnt, St.setReq, hxr, Ne.symm hxr] using hx
  · rcases List.mem_append.mp he with he | he
    · have := h.addr e he
      by_cases her : e.rid = r
      · rw [her] at this; simpa [Core.finish, St.setReq, her] using this
      · simpa [Core.finish, St.setReq, her] using this
    · simp [List.mem_singleton.mp he, Core.finish, St.setReq]
  · rcases List.mem_append.mp he with he | he
    · exact h.orig e he
    · rw [List.mem_singleton.mp he]; exact ho

theorem finish_nreq (s : St) (r o) : (finish s r o).nreq = s.nreq := rfl

theorem Inv.newReq {s : St} (h : Inv s) (q : Req) (hq : q.done = false) :
    Inv { s with nreq := s.nreq + 1, req := upd s.req s.nreq q } := by
  have hout : ∀ e ∈ s.out, e.rid ≠ s.nreq := by
    intro e he hn
    have hpos : 0 < cnt s.out e.rid := List.countP_pos_iff.mpr ⟨e, he, by simp⟩
    have := h.one e.rid
    rw [hn] at hpos this
    simp at this
    omega
  refine ⟨fun x => ?_, fun e he => ?_, h.orig⟩
  · have hx := h.one x
    by_cases hxr : x = s.nreq
    · subst hxr; simpa [hq] using hx
    · have : (x < s.nreq + 1) ↔ (x < s.nreq) := by omega
      simpa [hxr, this] using hx
  · simpa [hout e he] using h.addr e he

/-- per-connection invariants: handles refer to existing requests, streams_partition
(`free ++ keys pending` has no duplicate), wire_matches_pending (every unanswered frame on the
wire is registered under its stream id), and so do the entries still to be notified -/
structure CInv (n : Nat) (k : Conn) : Prop where
  rid : ∀ e, (e ∈ k.pending ∨ e ∈ k.wire) → e.2.rid < n
  nodup : (k.free ++ k.pending.map (·.1)).Nodup
  wire : ∀ e ∈ k.wire, e ∈ k.pending
  notif : ∀ e ∈ k.toNotify, e.2.rid < n

def ConnsOK (s : St) : Prop := ∀ c, CInv s.nreq (s.conn c)

/-- frames on the wire are registered, so it is enough to look at `pending` for the handles -/
theorem CInv.of_pending {n : Nat} {k : Conn} (rid : ∀ e ∈ k.pending, e.2.rid < n) (nodup : (k.free ++ k.pending.map (·.1)).Nodup)
    (wire : ∀ e ∈ k.wire, e ∈ k.pending) (notif : ∀ e ∈ k.toNotify, e.2.rid < n) : CInv n k :=
  ⟨fun e he => rid e (he.elim id (wire e)), nodup, wire, notif⟩

theorem CInv.mono {n m : Nat} {k : Conn} (h : CInv n k) (hnm : n ≤ m) : CInv m k :=
  ⟨fun e he => Nat.lt_of_lt_of_le (h.rid e he) hnm, h.nodup, h.wire, fun e he => Nat.lt_of_lt_of_le (h.notif e he) hnm⟩

theorem ConnsOK.setConn {s : St} {c : ConnId} {k : Conn} (h : ConnsOK s) (hk : CInv s.nreq k) : ConnsOK (s.setConn c k) :=
  upd_forall (P := fun _ k => CInv s.nreq k) h hk

/-- connection `k` owns `r`: an entry for `r` is on its wire, or pending on it while it is dead and `Closing` has not
run, or among the entries `Closing` has still to notify -/
def OwnedBy (k : Conn) (r : ReqId) : Prop :=
  ∃ e : BS × Handle, e.2.rid = r ∧
    (e ∈ k.wire ∨ (e ∈ k.pending ∧ k.dead = true ∧ k.notified = false) ∨ e ∈ k.toNotify)

def Owned (s : St) (r : ReqId) : Prop := ∃ c, OwnedBy (s.conn c) r

def Settled (s : St) (r : ReqId) : Prop := (s.req r).done = true ∨ Owned s r

theorem Settled.setReq {s : St} {r x : ReqId} {q : Req} (hd : (s.req r).done = true → q.done = true) :
    Settled s x → Settled (s.setReq r q) x :=
  Or.imp_left (upd_forall (P := fun x (q' : Req) => (s.req x).done = true → q'.done = true) (fun _ h => h) hd x)

theorem Settled.setConn {s : St} {c : ConnId} {k : Conn} {r : ReqId} (hk : OwnedBy (s.conn c) r → OwnedBy k r) :
    Settled s r → Settled (s.setConn c k) r :=
  Or.imp_right fun ⟨c', h⟩ => ⟨c', upd_forall (P := fun j k' => OwnedBy (s.conn j) r → OwnedBy k' r) (fun _ h => h) hk c' h⟩

theorem not_ownedBy {k : Conn} {r : ReqId} (hw : k.wire = []) (hd : k.dead = true → k.notified = true) (hn : k.toNotify = []) :
    ¬ OwnedBy k r := by
  rintro ⟨e, _, hc | ⟨_, h1, h2⟩ | hc⟩
  · simp [hw] at hc
  · simp [hd h1] at h2
  · simp [hn] at hc

/-- facts about connections the ownership argument needs; `fresh`: the connection has not been opened
yet, and then counts as one that `Closing` is through with (it owns nothing and, being `closing`,
accepts nothing) -/
structure CAux (fresh : Prop) (k : Conn) : Prop where
  deadWire : k.dead = true → k.wire = []
  notifDead : k.notified = true → k.dead = true ∧ k.closing = true
  notifNone : k.notified = false → k.toNotify = []
  unused : fresh → k.notified = true ∧ k.toNotify = []

def Aux (s : St) : Prop := ∀ c, CAux (s.nconn ≤ c) (s.conn c)

theorem CAux.mono {P Q : Prop} {k : Conn} (h : CAux P k) (hq : Q → P) : CAux Q k :=
  ⟨h.deadWire, h.notifDead, h.notifNone, fun q => h.unused (hq q)⟩

theorem CAux.unused_not_owned {P : Prop} {k : Conn} {r : ReqId} (h : CAux P k) (hp : P) : ¬ OwnedBy k r :=
  not_ownedBy (h.deadWire (h.notifDead (h.unused hp).1).1) (fun _ => (h.unused hp).1) (h.unused hp).2

theorem Aux.setConn {s : St} {c : ConnId} {k : Conn} (h : Aux s) (hk : CAux (s.nconn ≤ c) k) : Aux (s.setConn c k) :=
  upd_forall (P := fun c k => CAux (s.nconn ≤ c) k) h hk

/-- `k'` extends `k`: nothing registered has been removed, no flag has changed -/
structure CExt (k k' : Conn) : Prop where
  dead : k'.dead = k.dead
  notified : k'.notified = k.notified
  closing : k'.closing = k.closing
  wire : ∀ e ∈ k.wire, e ∈ k'.wire
  pending : ∀ e ∈ k.pending, e ∈ k'.pending
  toNotify : k'.toNotify = k.toNotify

theorem OwnedBy.mono {k k' : Conn} (h : CExt k k') {r : ReqId} : OwnedBy k r → OwnedBy k' r := by
  rintro ⟨e, he, hc | ⟨hp, hd, hn⟩ | hc⟩
  · exact ⟨e, he, Or.inl (h.wire e hc)⟩
  · exact ⟨e, he, Or.inr (Or.inl ⟨h.pending e hp, h.dead ▸ hd, h.notified ▸ hn⟩)⟩
  · exact ⟨e, he, Or.inr (Or.inr (h.toNotify ▸ hc))⟩

/-- what registering (and, on a live socket, writing) a frame for request `r` does to a connection, as far
as the invariants can tell: frames for `r` are added, nothing else changes, and `r` is owned afterwards -/
structure Sent (r : ReqId) (k k' : Conn) : Prop where
  ext : CExt k k'
  cinv : ∀ {n}, r < n → CInv n k → CInv n k'
  caux : ∀ {P}, CAux P k → CAux P k'
  owned : ∀ {P}, CAux P k → OwnedBy k' r

/-- `hd` registered under the free stream id `b` of a connection that is not closing, and written if the
socket is live (`wl`, `i`: the wire and the load afterwards).  The request is owned: on the wire of a live
connection, or on a dead one that has yet to run `Closing` — the `closing` flag is what rules out
registering on a connection whose notifications have already gone out — and that even if the write is
reported as failed, since the entry stays behind for `Closing` to find. -/
theorem Sent.registered {k : Conn} {b : BS} {fr : List BS} (hd : Handle) {wl : List (BS × Handle)} {i : Int}
    (hcl : k.closing = false) (hf : k.free = b :: fr)
    (hwl : k.dead = true ∧ wl = k.wire ∨ k.dead = false ∧ wl = k.wire ++ [(b, hd)]) :
    Sent hd.rid k { k with free := fr, pending := (b, hd) :: k.pending, wire := wl, inflight := i } := by
  have hmem : ∀ e ∈ wl, e ∈ k.wire ∨ e = (b, hd) := by
    rcases hwl with ⟨_, rfl⟩ | ⟨_, rfl⟩ <;> simp +contextual
  have hsub : ∀ e ∈ k.wire, e ∈ wl := by
    rcases hwl with ⟨_, rfl⟩ | ⟨_, rfl⟩ <;> simp +contextual
  refine ⟨⟨rfl, rfl, rfl, hsub, fun _ h => List.mem_cons_of_mem _ h, rfl⟩, fun hh h => .of_pending ?_ ?_ ?_ h.notif,
    fun h => ⟨?_, h.notifDead, h.notifNone, h.unused⟩, fun h => ?_⟩
  · intro e he
    rcases List.mem_cons.mp he with rfl | he
    · exact hh
    · exact h.rid e (Or.inl he)
  · have := h.nodup
    rw [hf] at this
    exact (List.perm_middle (l₁ := fr) (a := b)).nodup_iff.mpr this
  · intro e he
    rcases hmem e he with he | rfl
    · exact List.mem_cons_of_mem _ (h.wire e he)
    · exact List.mem_cons_self
  · intro hdead
    rcases hwl with ⟨_, rfl⟩ | ⟨hl, _⟩
    · exact h.deadWire hdead
    · simp [hl] at hdead
  · rcases hwl with ⟨hdead, _⟩ | ⟨_, rfl⟩
    · have hn : k.notified = false := Bool.eq_false_iff.mpr fun hn => by simp [(h.notifDead hn).2] at hcl
      exact ⟨(b, hd), rfl, Or.inr (Or.inl ⟨List.mem_cons_self, hdead, hn⟩)⟩
    · exact ⟨(b, hd), rfl, Or.inl (by simp)⟩

/-- `ClientConn.Send` refuses (the connection is closing, or no stream id is free) and leaves the state as it is, or
registers the frame on connection `c`; then it reports failure only for a failed write to a dead socket -/
theorem sendTo_spec (s : St) (c : ConnId) (hd : Handle) (w : Bool) :
    sendTo s c hd w = (s, false) ∧ ((s.conn c).closing = true ∨ (s.conn c).free = []) ∨
      ∃ k, sendTo s c hd w = (s.setConn c k, !(s.conn c).dead || w) ∧ Sent hd.rid (s.conn c) k := by
  unfold sendTo
  dsimp only
  by_cases hcl : (s.conn c).closing = true
  · exact .inl ⟨if_pos hcl, .inl hcl⟩
  rw [if_neg hcl]
  rw [Bool.not_eq_true] at hcl
  cases hf : (s.conn c).free with
  | nil => exact .inl ⟨rfl, .inr rfl⟩
  | cons b fr =>
    dsimp only
    by_cases hdead : (s.conn c).dead = true
    · rw [if_pos hdead]
      cases w <;> exact .inr ⟨_, Prod.ext rfl (by simp [hdead]), Sent.registered hd hcl hf (.inl ⟨hdead, rfl⟩)⟩
    · rw [if_neg hdead]
      exact .inr ⟨_, Prod.ext rfl (by simp [hdead]), Sent.registered hd hcl hf (.inr ⟨by simpa using hdead, rfl⟩)⟩

/-- what a handler running for request `r` does: it finds the request answered and does nothing, or it
updates the request's record (never its address, nor `done`), sends frames for it until a send succeeds,
and answers it if none does.  A send that is refused is no move; one that registers its frame changes one
connection as `Sent` says.  (`failed`: a send after which the handler goes on; that it does so only when
the write has failed is of no consequence.) -/
inductive Moves (r : ReqId) : St → St → Prop
  | idle {s} : (s.req r).done = true → Moves r s s
  | finish {s} (o : Option Handle) : (s.req r).done = false → (∀ hw, o = some hw → hw.rid = r) → Moves r s (finish s r o)
  | sent {s} (c : ConnId) {k : Conn} : Sent r (s.conn c) k → Moves r s (s.setConn c k)
  | failed {s t} (c : ConnId) {k : Conn} : Sent r (s.conn c) k → Moves r (s.setConn c k) t → Moves r s t
  | setReq {s t} (q : Req) : Moves r (s.setReq r q) t → q.Alike (s.req r) → Moves r s t

theorem Moves.safe {r : ReqId} {s t : St} (m : Moves r s t) (hr : r < s.nreq) (hi : Inv s) (hc : ConnsOK s) :
    Inv t ∧ ConnsOK t ∧ t.nreq = s.nreq := by
  induction m with
  | idle _ => exact ⟨hi, hc, rfl⟩
  | finish o hnd ho => exact ⟨hi.finish hr hnd ho, hc, rfl⟩
  | sent c hk => exact ⟨hi.setConn, hc.setConn (hk.cinv hr (hc c)), rfl⟩
  | failed c hk _ ih => exact ih hr hi.setConn (hc.setConn (hk.cinv hr (hc c)))
  | setReq q _ hq ih => exact ih hr (hi.setReq hq) hc

theorem Moves.live {r : ReqId} {s t : St} (m : Moves r s t) (ha : Aux s) :
    Aux t ∧ Settled t r ∧ ∀ x, Settled s x → Settled t x := by
  induction m with
  | idle hd => exact ⟨ha, Or.inl hd, fun _ h => h⟩
  | finish o _ _ => exact ⟨ha, Or.inl (by simp [Core.finish]), fun x => Settled.setReq fun _ => rfl⟩
  | sent c hk =>
    exact ⟨ha.setConn (hk.caux (ha c)), Or.inr ⟨c, by simpa using hk.owned (ha c)⟩,
      fun x => Settled.setConn (OwnedBy.mono hk.ext)⟩
  | failed c hk _ ih =>
    obtain ⟨ha', hr, hx⟩ := ih (ha.setConn (hk.caux (ha c)))
    exact ⟨ha', hr, fun x h => hx x (h.setConn (OwnedBy.mono hk.ext))⟩
  | setReq q _ hq ih =>
    obtain ⟨ha', hr, hx⟩ := ih ha
    exact ⟨ha', hr, fun x h => hx x (h.setReq fun h => hq.1 ▸ h)⟩

/-- the shape of a send in the handlers, `let (s', ok) := sendTo …; if ok then s' else K s'`: stop if it
succeeds, go on if it fails -/
theorem Moves.trySendTo {s : St} {c : ConnId} (hd : Handle) {w : Bool} {K : St → St}
    (hK : ∀ s', s'.req = s.req → Moves hd.rid s' (K s')) :
    Moves hd.rid s (if (sendTo s c hd w).2 then (sendTo s c hd w).1 else K (sendTo s c hd w).1) := by
  obtain ⟨e, _⟩ | ⟨k, e, hk⟩ := sendTo_spec s c hd w <;> rw [e]
  · exact hK s rfl
  · split
    · exact .sent c hk
    · exact .failed c hk (hK _ rfl)

theorem Moves.trySendHost {s : St} {h : Host} (hd : Handle) {w : Bool} {K : St → St}
    (hK : ∀ s', s'.req = s.req → Moves hd.rid s' (K s')) :
    Moves hd.rid s (if (sendHost s h hd w).2 then (sendHost s h hd w).1 else K (sendHost s h hd w).1) := by
  unfold sendHost
  split
  · exact hK s rfl
  · exact .trySendTo _ hK

theorem execNext_moves {r : ReqId} (plan : List Host) {s : St} {ws : List Bool} (hnd : (s.req r).done = false) :
    Moves r s (execNext s r ws plan) := by
  induction plan generalizing s ws with
  | nil =>
    exact .setReq _ (.finish none (by simpa using hnd) (by simp)) ⟨rfl, rfl, rfl⟩
  | cons h rest ih =>
    exact .setReq _ (.trySendHost (.req r) fun s' e => ih (by rw [e]; simpa using hnd)) ⟨rfl, rfl, rfl⟩

theorem execSame_moves {r : ReqId} {s : St} {ws : List Bool} (hnd : (s.req r).done = false) : Moves r s (execSame s r ws) := by
  unfold execSame
  split
  · exact .finish none hnd (by simp)
  · exact .trySendHost (.req r) fun s' e => execNext_moves _ (by rw [e]; exact hnd)

/-- every handler begins `if q.done then s else …` -/
theorem Moves.unlessDone {r : ReqId} {s t : St} (h : (s.req r).done = false → Moves r s t) :
    Moves r s (if (s.req r).done = true then s else t) := by
  split
  · exact .idle ‹_›
  · exact h (Bool.eq_false_iff.mpr ‹_›)

theorem onResult_moves {r : ReqId} {s : St} {o : Outcome} (og : Handle) {ws : List Bool} (hog : og.rid = r) :
    Moves r s (onResult s r o og ws) := by
  refine .unlessDone fun hnd => ?_
  have hso : ∀ hw, some og = some hw → hw.rid = r := by rintro _ ⟨⟩; exact hog
  split
  · exact .finish _ hnd hso
  · split
    · exact .finish _ hnd hso
    · exact .setReq _ (execSame_moves (by simpa using hnd)) ⟨rfl, rfl, rfl⟩
    · exact .setReq _ (execNext_moves _ (by simpa using hnd)) ⟨rfl, rfl, rfl⟩

theorem onClose_moves {r : ReqId} (s : St) (ws : List Bool) : Moves r s (onClose s r ws) := by
  refine .unlessDone fun hnd => ?_
  split
  · exact execNext_moves _ hnd
  · exact .finish none hnd (by simp)

theorem execute_moves {r : ReqId} {s : St} {next : Bool} {ws : List Bool} : Moves r s (execute s r next ws) := by
  refine .unlessDone fun hnd => ?_
  split
  · exact execNext_moves _ hnd
  · exact execSame_moves hnd

theorem closeAll_inv (es : List (BS × Handle)) : ∀ (s : St) (ws : List Bool), (∀ e ∈ es, e.2.rid < s.nreq) →
    Inv s → ConnsOK s →
    Inv (closeAll s ws es) ∧ ConnsOK (closeAll s ws es) ∧ (closeAll s ws es).nreq = s.nreq := by
  induction es with
  | nil => intro s ws _ h h0; exact ⟨h, h0, rfl⟩
  | cons e es ih =>
    intro s ws hes h h0
    obtain ⟨h1, h2, hn⟩ := (onClose_moves s ws).safe (hes e (by simp)) h h0
    obtain ⟨h3, h4, hn'⟩ := ih (onClose s e.2.rid ws) ws (fun e' he' => hn ▸ hes e' (by simp [he'])) h1 h2
    exact ⟨h3, h4, hn'.trans hn⟩

end CqlVerif.Core
