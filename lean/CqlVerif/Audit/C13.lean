import CqlVerif.Props.C13
#print axioms CqlVerif.C13.classOf_eq_vclass
#print axioms CqlVerif.C13.gateC_allowed
#print axioms CqlVerif.C13.gateC_ok
#print axioms CqlVerif.C13.gate_ok
#print axioms CqlVerif.C13.gateC_outOfRange
#print axioms CqlVerif.C13.gate_closed_form
#print axioms CqlVerif.C13.out_of_range_never_routed
#print axioms CqlVerif.C13.startup_one_frame
#print axioms CqlVerif.C13.unsupported_compression_only_error
#print axioms CqlVerif.C13.supported_compression_switches
#print axioms CqlVerif.C13.gate_shape_ok
