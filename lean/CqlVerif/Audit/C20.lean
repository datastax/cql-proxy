import CqlVerif.Props.C20
#print axioms CqlVerif.C20.version_names_ok
#print axioms CqlVerif.C20.find_key
#print axioms CqlVerif.C20.rowFast_ok
#print axioms CqlVerif.C20.consistency_names_ok
#print axioms CqlVerif.C20.version_spec_injective
#print axioms CqlVerif.C20.consistency_spec_injective
#print axioms CqlVerif.C20.injective_of_rowsOk
#print axioms CqlVerif.C20.version_names_injective
#print axioms CqlVerif.C20.consistency_names_injective
#print axioms CqlVerif.C20.lowerByte_idem
#print axioms CqlVerif.C20.lower_idem
#print axioms CqlVerif.C20.spec_case_insensitive
#print axioms CqlVerif.C20.ite_some_eq_none
#print axioms CqlVerif.C20.start_only_if_consistent
