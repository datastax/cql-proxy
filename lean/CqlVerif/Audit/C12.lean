import CqlVerif.Props.C12
#print axioms CqlVerif.C12.override_query
#print axioms CqlVerif.C12.override_execute
#print axioms CqlVerif.C12.override_batch
#print axioms CqlVerif.C12.select_untouched
#print axioms CqlVerif.C12.select_execute_untouched
#print axioms CqlVerif.C12.other_consistency_untouched
#print axioms CqlVerif.C12.no_config_identity
