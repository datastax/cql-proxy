import CqlVerif.Lemmas.Grammar
/-
Lemmas.GrammarStmt — from terms to a whole statement: the first token (`classify_*`), the scan for `IF` behind a
statement's body, and `INSERT INTO … VALUES ( terms )` up to that scan.
-/
namespace CqlVerif.Ast
open CqlVerif.Parser CqlVerif.Gen.Lex

variable {L : Lexer} {s : LS} {a b : Tok} {tl rest tail : List Tok} {fuel n : Nat}

/-- `IsQueryIdempotent`'s verdict from what the statement's own function returns: only `;` or the end may follow -/
def verdict (o : R × Nat × LS) : R := { o.1 with idem := o.1.idem && (o.2.1 = tkEOF || o.2.1 = tkEOS) }

theorem classify_insert (hA : At L 0 (k tkInsert :: tl)) :
    ∃ s : LS, At L s.p tl ∧ classify L fuel = verdict (insertStmt L fuel s) :=
  ⟨_, At.next (s := { p := 0 }) hA, by simp (decide := true) [classify, dispatch, verdict, hA.read (s := { p := 0 })]⟩

theorem classify_delete (hA : At L 0 (k tkDelete :: tl)) :
    ∃ s : LS, At L s.p tl ∧ classify L fuel = verdict (deleteStmt L fuel s) :=
  ⟨_, At.next (s := { p := 0 }) hA, by simp (decide := true) [classify, dispatch, verdict, hA.read (s := { p := 0 })]⟩

theorem verdict_idem {o : R × Nat × LS} (h : (verdict o).idem = true) : o.1.idem = true := by
  simp only [verdict, Bool.and_eq_true] at h; exact h.1

/-- the tokens behind a plain statement: nothing, or a `;`, then the end of the input -/
def endToks (semi : Bool) : List Tok := (if semi then [k tkEOS] else []) ++ [k tkEOF]

theorem At_append {L : Lexer} : ∀ (xs ys : List Tok) (p : Nat), At L p (xs ++ ys) → At L (p + xs.length) ys
  | [], ys, p, h => by simpa using h
  | x :: xs, ys, p, h => by
    simpa [Nat.add_assoc, Nat.add_comm 1] using At_append xs ys (p + 1) h.2

theorem scan_pos {u : Nat} (hi : (scanForIf L fuel s u).1.idem = true) : ∃ n, fuel = n + 1 :=
  Nat.exists_eq_succ_of_ne_zero fun h => by simp [h, scanForIf, R.fuel] at hi

theorem scan_step {u : Nat} (hu : isDMLTerminator u = false) :
    scanForIf L (n+1) s u = if u = tkIf then ({ idem := false }, tkInvalid, s) else enter L (scanForIf L) n s := by
  rw [scanForIf]; simp only [hu, Bool.false_eq_true, ↓reduceIte]; rfl

theorem scan_skip : ∀ (pre : List Tok) (fuel : Nat) (s : LS), (∀ x ∈ pre, isDMLTerminator x.kind = false) →
    At L s.p (pre ++ rest) → (enter L (scanForIf L) fuel s).1.idem = true →
    ∃ n s', enter L (scanForIf L) fuel s = enter L (scanForIf L) n s' ∧ At L s'.p rest
  | [], fuel, s, _, hA, _ => ⟨fuel, s, rfl, hA⟩
  | x :: pre, fuel, s, hx, hA, hi => by
    rw [enter_eq hA] at hi ⊢
    obtain ⟨n, rfl⟩ := scan_pos hi
    rw [scan_step (hx x (List.mem_cons_self ..))] at hi ⊢
    by_cases hif : x.kind = tkIf
    · simp [hif] at hi
    · rw [if_neg hif] at hi ⊢
      exact scan_skip pre n _ (fun y hy => hx y (List.mem_cons_of_mem _ hy)) hA.next hi

theorem scan_run (pre : List Tok) (hpre : ∀ x ∈ pre, isDMLTerminator x.kind = false) (hb : isDMLTerminator b.kind = true)
    (hA : At L s.p (pre ++ b :: rest)) (hi : (enter L (scanForIf L) fuel s).1.idem = true) :
    ∃ s' : LS, enter L (scanForIf L) fuel s = ({ idem := true }, b.kind, s'.adv b) ∧ At L s'.p (b :: rest) := by
  obtain ⟨n, s', e, hA'⟩ := scan_skip pre fuel s hpre hA hi
  rw [e, enter_eq hA'] at hi ⊢
  obtain ⟨m, rfl⟩ := scan_pos hi
  exact ⟨s', by simp [scanForIf, hb], hA'⟩

theorem scan_if (pre post : List Tok) (hpre : ∀ x ∈ pre, isDMLTerminator x.kind = false)
    (hA : At L s.p (pre ++ k tkIf :: post)) : (enter L (scanForIf L) fuel s).1.idem = false := by
  refine Bool.eq_false_iff.mpr fun hi => ?_
  obtain ⟨n, s', e, hA'⟩ := scan_skip pre fuel s hpre hA hi
  rw [e, enter_eq hA'] at hi
  obtain ⟨m, rfl⟩ := scan_pos hi
  simp (decide := true) [scanForIf] at hi

theorem scan_end (semi : Bool) (hA : At L s.p (endToks semi)) : verdict (enter L (scanForIf L) (n+1) s) = { idem := true } := by
  cases semi <;> simp (decide := true) [enter_eq (show At L s.p (_ :: _) from hA), scanForIf, verdict]

theorem cols_names : NameList renderCols tkRparen where
  nil _ := rfl
  cons a cs rest := by cases cs <;> exact ⟨_, rfl, by constructor⟩

theorem cols_run (cs : List Ident) (h : (enter L (parseIdentifiers L) fuel s).1 = false ∨ cs.length < fuel)
    (hA : At L s.p (renderCols cs rest)) :
    ∃ s' : LS, enter L (parseIdentifiers L) fuel s = (false, s'.adv (k tkRparen)) ∧ At L s'.p (k tkRparen :: rest) := by
  obtain ⟨n, s', e, hA'⟩ := names_run (loop := parseIdentifiers L) (okay := fun o => o.1 = false) cols_names (by decide)
    (by simp [parseIdentifiers]) (fun n s => by rw [parseIdentifiers]; simp (decide := true) only [↓reduceIte]; rfl) cs fuel s h hA
  exact ⟨s', by rw [e]; simp [parseIdentifiers], hA'⟩

/-- an INSERT behind the word INSERT, with `tail` for what follows the list of values: by definition `i.render` is
`k tkInsert :: i.body i.tail` and `i.renderWith after` is `k tkInsert :: i.body (i.tail ++ after)` -/
def Insert.body (i : Insert) (tail : List Tok) : List Tok :=
  k tkInto :: renderName i.ks i.table
    (k tkLparen :: renderCols i.cols (idt i.valuesKw :: k tkLparen :: i.vals.renderElems (k tkRparen :: tail)))

/-- `INTO [ks.]t (cols) VALUES (` is read, given fuel for the column list or a verdict that shows there was; what
remains is the list of values, the `)` and the scan for `IF` -/
theorem insertStmt_eq (i : Insert) (hkw : i.valuesKw.equal "values" = true) (hA : At L s.p (i.body tail))
    (h : (insertStmt L fuel s).1.idem = true ∨ i.cols.length < fuel) :
    ∃ s' : LS, At L s'.p (i.vals.renderElems (k tkRparen :: tail)) ∧ insertStmt L fuel s =
      andThen (enter L (parseTermsUntilRparen L) fuel s') (fun q => (tkInvalid, q.2)) fun q =>
        if q.1 ≠ tkRparen then (R.bad, tkInvalid, q.2) else enter L (scanForIf L) fuel q.2 := by
  rw [Insert.body] at hA
  obtain ⟨s₀, s₁, hr, hq, hA2⟩ := read_name (b := k tkLparen) (by decide) hA.next
  rw [insertStmt] at h ⊢
  simp (decide := true) only [hA.read, hr, hq, isUnreservedKeyword, Bool.false_eq_true, ne_eq, ↓reduceIte] at h ⊢
  obtain ⟨s₂, e2, hA3⟩ := cols_run i.cols (h.imp_left fun hi => Bool.eq_false_iff.mpr fun hc => by
    simp only [enter] at hc; simp [hc, R.bad] at hi) hA2.next
  simp only [enter] at e2
  simp (decide := true) only [e2, hA3.next.read, adv_idt_id, hkw, hA3.next.next.read, not_true_eq_false,
    Bool.false_eq_true, ↓reduceIte]
  exact ⟨_, hA3.next.next.next, rfl⟩

/-- the whole INSERT up to the scan for `IF`, from either side: the verdict is "idempotent", or the values are known to
be read to their end and there is fuel for columns and values -/
theorem insertStmt_run (i : Insert) (hkw : i.valuesKw.equal "values" = true) (hA : At L s.p (i.body tail))
    (hi : (insertStmt L fuel s).1.idem = true ∨ i.vals.All Complete ∧ i.cols.length + i.vals.size < fuel) :
    i.vals.nonIdem = false ∧ ∃ s' : LS, insertStmt L fuel s = enter L (scanForIf L) fuel s' ∧ At L s'.p tail := by
  obtain ⟨s₁, hA1, e⟩ := insertStmt_eq i hkw hA (hi.imp_right fun h => by omega)
  rw [e] at hi ⊢
  obtain ⟨hn, s', e2, hA2⟩ := terms_enter (termsUntil_is L) i.vals (terms_all i.vals) fuel s₁ tail hA1
    (hi.imp (fun hi => (andThen_idem hi).1) fun h => ⟨h.1, by omega⟩)
  rw [andThen_ok (by rw [e2]), e2]
  exact ⟨hn, _, by simp, hA2⟩

end CqlVerif.Ast
