import CqlVerif.Model.Frame
import CqlVerif.Props.C11
/-!
# C12 — Write-consistency override rewrites exactly the consistency of matching writes
-/
namespace CqlVerif.C12
open CqlVerif.Wire CqlVerif.PartialCodec CqlVerif.Frame CqlVerif.C11

/-- **override_query** — on every valid body whose consistency is in the list the result
is the same body with exactly the two consistency bytes replaced: same query string before, same
parameter bytes (flags, values, serial consistency, timestamp, paging, keyspace …) after; the
length is unchanged, so the frame stays well-formed. -/
theorem override_query (o : Override) (p : PQuery) (hq : p.query.length < 2147483648) (hc : p.consistency < 65536)
    (hin : o.unsupported.contains p.consistency = true) :
    overrideQuery o false (encodeQuery p) = some (writeLongString p.query ++ writeShort o.override ++ p.params) ∧
    (writeLongString p.query ++ writeShort o.override ++ p.params).length = (encodeQuery p).length := by
  refine ⟨?_, by simp [encodeQuery, writeShort]⟩
  rw [overrideQuery, agree_query p hq hc]
  simp only [Bool.not_false, Bool.true_and, hin, ↓reduceIte, encodeQuery]

theorem override_execute (o : Override) (rmid : Bool) (p : PExecute) (hid : p.id ≠ []) (hil : p.id.length < 65536)
    (hrm : if rmid then p.resultMetadataId ≠ [] ∧ p.resultMetadataId.length < 65536 else p.resultMetadataId = [])
    (hc : p.consistency < 65536) (hin : o.unsupported.contains p.consistency = true) :
    overrideExecute o rmid false (encodeExecute rmid p) = some (encodeExecute rmid { p with consistency := o.override }) ∧
    (encodeExecute rmid { p with consistency := o.override }).length = (encodeExecute rmid p).length := by
  refine ⟨?_, by simp [encodeExecute, writeShort]⟩
  rw [overrideExecute, agree_execute rmid p hid hil hrm hc]
  simp only [Bool.not_false, Bool.true_and, hin, ↓reduceIte]

theorem override_batch (o : Override) (p : PBatch) (ht : p.type ≤ 2) (hn : p.children.length < 65536)
    (hch : ∀ c ∈ p.children, ChildOK c) (hc : p.consistency < 65536) (hin : o.unsupported.contains p.consistency = true) :
    overrideBatch o (encodeBatch p) = some (encodeBatch { p with consistency := o.override }) ∧
    (encodeBatch { p with consistency := o.override }).length = (encodeBatch p).length := by
  refine ⟨?_, by simp [encodeBatch, writeShort]⟩
  rw [overrideBatch, agree_batch p ht hn hch hc]
  simp only [hin, ↓reduceIte]

/-- **select_untouched** — SELECTs (direct or prepared) are forwarded unmodified, whatever their consistency -/
theorem select_untouched (o : Override) (body : Bytes) (p : PQuery) (h : decodeQuery body = some p) :
    overrideQuery o true body = some body := by
  simp [overrideQuery, h]

theorem select_execute_untouched (o : Override) (rmid : Bool) (body : Bytes) (p : PExecute) (h : decodeExecute rmid body = some p) :
    overrideExecute o rmid true body = some body := by
  simp [overrideExecute, h]

/-- **other_consistency_untouched** — a consistency that is not in the list leaves the bytes alone -/
theorem other_consistency_untouched (o : Override) (isSelect : Bool) (body : Bytes) (p : PQuery)
    (h : decodeQuery body = some p) (hn : o.unsupported.contains p.consistency = false) :
    overrideQuery o isSelect body = some body := by
  simp only [overrideQuery, h, hn, Bool.and_false, Bool.false_eq_true, ↓reduceIte]

/-- **no_config_identity** — with no list configured nothing is ever modified -/
theorem no_config_identity (ov : Nat) (isSelect rmid : Bool) (body : Bytes) :
    (∀ p, decodeQuery body = some p → overrideQuery ⟨[], ov⟩ isSelect body = some body) ∧
    (∀ p, decodeExecute rmid body = some p → overrideExecute ⟨[], ov⟩ rmid isSelect body = some body) ∧
    (∀ p, decodeBatch body = some p → overrideBatch ⟨[], ov⟩ body = some body) := by
  refine ⟨?_, ?_, ?_⟩ <;> intro p h <;> simp [overrideQuery, overrideExecute, overrideBatch, h]

/-- non-vacuity: `INSERT…` at consistency ANY (0) with list [0, 1] and override LOCAL_QUORUM (6) -/
example : overrideQuery ⟨[0, 1], 6⟩ false [0, 0, 0, 2, 73, 78, 0, 0, 5, 9] = some [0, 0, 0, 2, 73, 78, 0, 6, 5, 9] := by decide

end CqlVerif.C12
