import CqlVerif.Model.Prepared
/-!
# C08 — Prepared statements execute on every backend host without client involvement
-/
namespace CqlVerif.C08
open CqlVerif.Prepared

/-- what `execPlan` can answer: a result, "no more hosts", or — only when the proxy does not hold
the statement's PREPARE — the backend's UNPREPARED -/
theorem execPlan_reply (s : PState) (k : Stmt) (pl : List Host) :
    (execPlan s k pl).1 = .ok ∨ (execPlan s k pl).1 = .proxyerr ∨
      (execPlan s k pl).1 = .unprepared ∧ s.cache k = false := by
  -- the one leaf that answers `unprepared` stands under `!s.cache k`, and no recursive call changes the cache
  fun_induction execPlan s k pl <;> simp_all

/-- **execute_answered** — the request is always answered: success, or "no more hosts"
once every host was tried; a failed re-prepare moves on instead of hanging -/
theorem execute_answered (s : PState) (k : Stmt) (pl : List Host) (hc : s.cache k = true) :
    (execPlan s k pl).1 = .ok ∨ (execPlan s k pl).1 = .proxyerr :=
  (execPlan_reply s k pl).imp_right (·.resolve_right (by simp [hc]))

/-- **unprepared_recovered** — for every plan and every backend/proxy state (hosts that never saw
the PREPARE, restarted hosts, hosts added later, failing or dropped re-prepares): while the
statement is in the proxy's cache the client never sees UNPREPARED. -/
theorem unprepared_recovered (s : PState) (k : Stmt) (pl : List Host) (hc : s.cache k = true) :
    (execPlan s k pl).1 ≠ .unprepared := by
  rcases execute_answered s k pl hc with h | h <;> simp [h]

/-- the cache is never emptied by the recovery itself -/
theorem execPlan_cache (s : PState) (k : Stmt) (pl : List Host) : (execPlan s k pl).2.1.cache = s.cache := by
  fun_induction execPlan s k pl <;> simp_all

/-- **cache_filled** — a successfully answered PREPARE has put the statement into the cache, on
whichever host it ended up -/
theorem cache_filled (s : PState) (k : Stmt) (pl : List Host) (h : (prepPlan s k pl).1 = .prepared) :
    (prepPlan s k pl).2.cache k = true := by
  fun_induction prepPlan s k pl <;> simp_all

/-- a live host `g` without scripted PREPARE failure is not the host `h` the request moves on from
(`h` is down, or its re-prepare fails), so it is still in the rest of the plan -/
theorem good_host_rest {s : PState} {g h : Host} {rest : List Host} (hg : g ∈ h :: rest)
    (hd : s.down g = false) (hf : s.failNext g = none) (hh : s.down h = true ∨ s.failNext h ≠ none) :
    g ≠ h ∧ g ∈ rest := by
  have hne : g ≠ h := by rintro rfl; simp_all
  exact ⟨hne, List.mem_of_ne_of_mem hne hg⟩

/-- a host that holds the statement, or on which the re-prepare succeeds, answers the request:
if some live host of the plan has no scripted PREPARE failure the client gets a result -/
theorem execute_succeeds (s : PState) (k : Stmt) (pl : List Host) (hc : s.cache k = true) (hk : idem k = true)
    (hgood : ∃ h ∈ pl, s.down h = false ∧ s.failNext h = none) : (execPlan s k pl).1 = .ok := by
  obtain ⟨g, hg, hd, hf⟩ := hgood
  -- along `execPlan`: the plan is not empty (1); the first host answers (3, 5); the statement is
  -- cached and idempotent (4, 8); a host that is down is passed over (2); otherwise the request
  -- moves on, and the updates of `down` and `failNext` concern the first host only, not `g`
  fun_induction execPlan s k pl
  case case1 => cases hg
  case case3 | case5 => rfl
  case case4 | case8 => simp_all
  case case2 ih => exact ih hc (good_host_rest hg hd hf (.inl ‹_›)).2 hd hf
  all_goals
    rename_i ih
    obtain ⟨hne, hg⟩ := good_host_rest hg hd hf (by simp [*])
    simpa only [*] using ih hc hg (by simp [hne, hd]) (by simp [hne, hf])

/-- **reprepare_error_moves_on** — when the re-PREPARE on the first live host of the plan is
answered with an error (retryable or not), the request - idempotent or not: it has not run
anywhere - continues with the rest of the plan; the PREPARE's error is not what the client gets -/
theorem reprepare_error_moves_on (s : PState) (k : Stmt) (h : Host) (rest : List Host) (f : Fail)
    (hd : s.down h = false) (hh : s.has h k = false) (hc : s.cache k = true) (hf : s.failNext h = some f) (hne : f ≠ .drop) :
    (execPlan s k (h :: rest)).1 = (execPlan { s with failNext := fun h' => if h' = h then none else s.failNext h' } k rest).1 := by
  cases f <;> simp_all [execPlan]

/-- non-vacuity: three hosts, the statement cached, the first host's re-prepare refused as INVALID:
the second host answers -/
example : (execPlan { (init 3) with cache := fun _ => true, failNext := fun h => if h = 0 then some .inv else none } 3 [0, 1, 2]).1 = .ok := by
  decide

end CqlVerif.C08
