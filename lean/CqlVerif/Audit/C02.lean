import CqlVerif.Props.C02
#print axioms CqlVerif.C02.streams_partition
#print axioms CqlVerif.C02.wire_matches_pending
#print axioms CqlVerif.C02.route_correct
#print axioms CqlVerif.C02.exhausted_iff
