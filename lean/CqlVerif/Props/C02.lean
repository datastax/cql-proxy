import CqlVerif.Lemmas.CoreStep
/-!
# C02 — A response is delivered only to the request (stream, client) that caused it

Backend assumption (stated in `Core.step`): a backend answers a frame it received at most once,
on the connection and stream it arrived on.
-/
namespace CqlVerif.C02
open CqlVerif.Core

/-- **streams_partition** — on every backend connection, in every reachable state, a stream id
is either free or maps to exactly one pending request: `free ++ keys pending` has no duplicate
(ids are handed out from `0 … max-1` at connect and only move between the two). -/
theorem streams_partition (as : List Act) (c : ConnId) :
    (((run as).conn c).free ++ ((run as).conn c).pending.map (·.1)).Nodup :=
  ((reachable as).conns c).nodup

/-- **wire_matches_pending** — every unanswered frame on a connection's wire with stream `b` was
sent for the handle currently stored under `b`. -/
theorem wire_matches_pending (as : List Act) (c : ConnId) :
    ∀ e ∈ ((run as).conn c).wire, e ∈ ((run as).conn c).pending :=
  ((reachable as).conns c).wire

/-- **route_correct** — every backend answer that was forwarded to a client was the answer to a
frame sent for that very request (whatever the interleaving, equal stream ids on different
clients, immediate reuse, recycling of backend stream ids, exhaustion). -/
theorem route_correct (as : List Act) :
    ∀ e ∈ (run as).out, ∀ hw, e.origin = some hw → hw.rid = e.rid :=
  (reachable as).inv.orig

/-- on a connection that is not closing, `Send` fails only if no stream id is free (StreamsExhausted) or the write
to a dead socket fails -/
theorem exhausted_iff (s : St) (c : ConnId) (hd : Handle) (w : Bool) (hc : (s.conn c).closing = false) :
    (sendTo s c hd w).2 = false → (s.conn c).free = [] ∨ ((s.conn c).dead = true ∧ w = false) := by
  intro h
  obtain ⟨_, hcl | hf⟩ | ⟨k, e, _⟩ := sendTo_spec s c hd w
  · rw [hc] at hcl; cases hcl
  · exact .inl hf
  · rw [e] at h; exact .inr (by simpa using h)

/-- non-vacuity: three requests over two streams of one connection, answered out of order, the
third one waits for a recycled stream id -/
example :
    let s := run [.connect 0 0 2, .clientReq 1 10 true [0] [], .clientReq 2 10 true [0] [], .backendReply 0 1 .success [],
                  .clientReq 1 11 true [0] [], .backendReply 0 1 .success [], .backendReply 0 0 .success []]
    s.out.map (fun e => (e.rid, e.client, e.cstream, e.origin.map Handle.rid)) =
      [(1, 2, 10, some 1), (2, 1, 11, some 2), (0, 1, 10, some 0)] := by
  decide

end CqlVerif.C02
