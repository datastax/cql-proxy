import CqlVerif.Model.Select
/-!
# C09 — Only USE and genuine system-table SELECTs are answered by the proxy itself

`Select.isQueryHandled` over an arbitrary token stream `L` (i.e. arbitrary statement bytes) and an
arbitrary current keyspace.
-/
namespace CqlVerif.C09
open CqlVerif.Parser CqlVerif.Select CqlVerif.Gen.Lex

/-- **non_select_forwarded** — anything that does not start with SELECT or USE (INSERT, UPDATE,
DELETE, BATCH, DDL, garbage …) is never answered by the proxy, whatever the current keyspace -/
theorem non_select_forwarded (L : Lexer) (fuel : Nat) (ks : Ident)
    (h1 : (L 0).kind ≠ tkSelect) (h2 : (L 0).kind ≠ tkUse) : (isQueryHandled L fuel ks).handled = false := by
  simp [isQueryHandled, nextT, h1, h2]

/-- a USE followed by an identifier is the proxy's -/
theorem use_handled (L : Lexer) (fuel : Nat) (ks : Ident) (h : (L 0).kind = tkUse)
    (h2 : (L (L 0).stop).kind = tkIdentifier) : (isQueryHandled L fuel ks).handled = true := by
  have hne : tkUse ≠ tkSelect := by decide
  simp [isQueryHandled, nextT, h, hne, h2]

/-- **handled_select_iff** — a SELECT whose FROM clause names `[q.]t` is answered by the proxy
exactly when the table's keyspace — the qualifier if present, else the connection's current
keyspace — is `system` and `t` is one of the virtualised tables, under CQL identifier rules
(`Ident.equal`: unquoted case-insensitive, quoted exact). -/
theorem handled_select_iff (L : Lexer) (fuel : Nat) (s : LS) (ks : Ident)
    (hfrom : (untilFrom L fuel (mark s)).1 = tkFrom)
    (hid : (nextT L (untilFrom L fuel (mark s)).2).1 = tkIdentifier)
    (hq : (parseQualifiedIdentifier L (nextT L (untilFrom L fuel (mark s)).2).2).2.2.2.1 = false) :
    let r := parseQualifiedIdentifier L (nextT L (untilFrom L fuel (mark s)).2).2
    (handledSelect L fuel s ks).handled =
      ((if r.1.isEmpty then ks else r.1).equal "system" && isSystemTable r.2.1) := by
  simp only [handledSelect, hfrom, hid, hq]
  -- `handled` is constant on the branches below the keyspace/table test
  simp [apply_ite Handled.handled]

/-- **foreign_qualifier_forwarded** — a table qualified with another keyspace is never the proxy's, even
while the connection's keyspace is `system` (the repaired defect) -/
theorem foreign_qualifier_forwarded (L : Lexer) (fuel : Nat) (s : LS) (ks : Ident)
    (hfrom : (untilFrom L fuel (mark s)).1 = tkFrom)
    (hid : (nextT L (untilFrom L fuel (mark s)).2).1 = tkIdentifier)
    (hq : (parseQualifiedIdentifier L (nextT L (untilFrom L fuel (mark s)).2).2).2.2.2.1 = false)
    (hne : (parseQualifiedIdentifier L (nextT L (untilFrom L fuel (mark s)).2).2).1.isEmpty = false)
    (hns : (parseQualifiedIdentifier L (nextT L (untilFrom L fuel (mark s)).2).2).1.equal "system" = false) :
    (handledSelect L fuel s ks).handled = false :=
  (handled_select_iff L fuel s ks hfrom hid hq).trans (by simp [hne, hns])

/-- CQL identifier rules of `Ident.equal`: unquoted names fold case, quoted ones are exact -/
example : (Ident.equal { text := [83, 89, 83, 116, 101, 109] } "system" = true) ∧
    (Ident.equal { text := [83, 121, 115, 116, 101, 109], ignoreCase := false } "system" = false) ∧
    (Ident.equal { text := [115, 121, 115, 116, 101, 109], ignoreCase := false } "system" = true) ∧
    isSystemTable { text := [80, 69, 69, 82, 83] } = true ∧ isSystemTable { text := [108, 111, 99, 97, 108, 115] } = false := by
  decide +kernel

end CqlVerif.C09
