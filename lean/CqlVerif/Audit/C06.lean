import CqlVerif.Props.C06
#print axioms CqlVerif.C06.unparseable_false
#print axioms CqlVerif.C06.total
#print axioms CqlVerif.C06.select_idempotent
#print axioms CqlVerif.C06.ddl_use_not_idempotent
#print axioms CqlVerif.C06.counter_batch_not_idempotent
#print axioms CqlVerif.C06.if_clause_not_idempotent
#print axioms CqlVerif.C06.no_verdict_dropped
#print axioms CqlVerif.C06.term_grammar_sound
#print axioms CqlVerif.C06.term_grammar_sound_tokens
#print axioms CqlVerif.C06.insert_grammar_sound
#print axioms CqlVerif.C06.insert_grammar_sound_tokens
#print axioms CqlVerif.C06.update_grammar_sound
#print axioms CqlVerif.C06.update_where_grammar_sound
#print axioms CqlVerif.C06.delete_where_grammar_sound
#print axioms CqlVerif.C06.batch_grammar_sound
#print axioms CqlVerif.C06.insert_if_not_idempotent
#print axioms CqlVerif.C06.counter_update_not_idempotent
#print axioms CqlVerif.C06.plain_term_accepted
#print axioms CqlVerif.C06.plain_insert_accepted
#print axioms CqlVerif.C06.plain_update_accepted
