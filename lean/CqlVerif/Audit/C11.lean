import CqlVerif.Props.C11
#print axioms CqlVerif.C11.agree_query
#print axioms CqlVerif.C11.reencode_query
#print axioms CqlVerif.C11.agree_execute
#print axioms CqlVerif.C11.reencode_execute
#print axioms CqlVerif.C11.decode_encode_child
#print axioms CqlVerif.C11.decode_encode_children
#print axioms CqlVerif.C11.agree_batch
#print axioms CqlVerif.C11.decode_total
