import CqlVerif.Lemmas.GrammarStmt
/-
Lemmas.GrammarBatch — `BEGIN BATCH insert [;] insert [;] … APPLY BATCH`: every child through `batchLoop`.
-/
namespace CqlVerif.Ast
open CqlVerif.Parser CqlVerif.Gen.Lex

variable {L : Lexer} {s : LS} {b : Tok} {tl rest : List Tok} {fuel n : Nat}

theorem batch_pos {u : Nat} (hi : (batchLoop L fuel s u).1.idem = true) : ∃ n, fuel = n + 1 :=
  Nat.exists_eq_succ_of_ne_zero fun h => by simp [h, batchLoop, R.fuel] at hi

/-- one round of the batch loop over an INSERT: the token that ended the child's scan for `IF` is the next round's
first, unless it is a `;`, which is skipped -/
theorem batch_step : batchLoop L (n+1) s tkInsert =
    andThen (insertStmt L n s) (fun q => (skipToken L q.2 q.1 tkEOS).2) fun q =>
      batchLoop L n (skipToken L q.2 q.1 tkEOS).2 (skipToken L q.2 q.1 tkEOS).1 := by
  rw [batchLoop]; simp (decide := true) only [dispatch, ↓reduceIte]; rfl

/-- what follows a child: the next statement's first token or `APPLY`; either ends the scan behind the child -/
theorem children_head (more : List (Insert × Bool)) (rest : List Tok) :
    ∃ b tl, renderChildren more (k tkApply :: rest) = b :: tl ∧ isDMLTerminator b.kind = true ∧ b.kind ≠ tkEOS := by
  cases more with
  | nil => exact ⟨k tkApply, rest, rfl, by decide, by decide⟩
  | cons c more => exact ⟨k tkInsert, _, rfl, by decide, by decide⟩

theorem children_sound : (cs : List (Insert × Bool)) →
    (∀ c ∈ cs, c.1.valuesKw.equal "values" = true ∧ ∀ x ∈ c.1.tail, isDMLTerminator x.kind = false) →
    ∀ (fuel : Nat) (s : LS), At L s.p (renderChildren cs (k tkApply :: rest)) →
    (enter L (batchLoop L) fuel s).1.idem = true → childrenNonIdem cs = false
  | [], _, _, _, _, _ => rfl
  | (i, semi) :: more, hall, fuel, s, hA, hi => by
    obtain ⟨hkw, htail⟩ := hall (i, semi) (List.mem_cons_self ..)
    have hmore := fun c hc => hall c (List.mem_cons_of_mem _ hc)
    have hA : At L s.p (k tkInsert ::
        i.body (i.tail ++ ((if semi then [k tkEOS] else []) ++ renderChildren more (k tkApply :: rest)))) := hA
    rw [enter_eq hA] at hi
    obtain ⟨n, rfl⟩ := batch_pos hi
    rw [batch_step] at hi
    obtain ⟨hins, e⟩ := andThen_idem hi
    obtain ⟨hn, s₁, e1, hA1⟩ := insertStmt_run i hkw hA.next (.inl hins)
    rw [e, e1] at hi
    rw [e1] at hins
    rw [childrenNonIdem, List.any_cons, hn]
    cases semi with
    | true =>
      obtain ⟨s₂, e2, hA2⟩ := scan_run i.tail htail (b := k tkEOS) (by decide) hA1 hins
      rw [e2, skip_eq] at hi
      exact children_sound more hmore n _ hA2.next hi
    | false =>
      obtain ⟨b, tlb, eb, hterm, hne⟩ := children_head more rest
      have hA1 : At L s₁.p (i.tail ++ b :: tlb) := eb ▸ hA1
      obtain ⟨s₂, e2, hA2⟩ := scan_run i.tail htail hterm hA1 hins
      rw [e2, skip_ne hne, ← enter_eq (loop := batchLoop L) hA2] at hi
      exact children_sound more hmore n s₂ (eb ▸ hA2) hi

theorem classify_batch (hA : At L 0 (k tkBegin :: tl)) :
    ∃ s : LS, At L s.p tl ∧ classify L fuel = (batchStmt L fuel s).1 :=
  ⟨_, At.next (s := { p := 0 }) hA, by simp (decide := true) [classify, hA.read (s := { p := 0 })]⟩

/-- `BATCH` is read (neither `UNLOGGED` nor `COUNTER` precedes it, no USING clause follows); the children remain -/
theorem batchStmt_eq (hb : b.kind ≠ tkUsing) (hA : At L s.p (k tkBatch :: b :: tl)) :
    batchStmt L fuel s = enter L (batchLoop L) fuel (s.adv (k tkBatch)) := by
  simp (decide := true) [batchStmt, isUnreservedKeyword, hA.read, hA.next.read, parseUsingClause, hb, enter]

end CqlVerif.Ast
