import CqlVerif.Props.C15
#print axioms CqlVerif.C15.members_exact
#print axioms CqlVerif.C15.removed_absent
#print axioms CqlVerif.C15.plan_exact
#print axioms CqlVerif.C15.plan_no_duplicates
#print axioms CqlVerif.C15.exhausted_forever
#print axioms CqlVerif.C15.drained_is_exhausted
#print axioms CqlVerif.C15.snapshot_stable
#print axioms CqlVerif.C15.rotation
#print axioms CqlVerif.C15.fair_window
