import CqlVerif.Model.Frame
import CqlVerif.Lemmas.Codec
/-!
# C03 — Forwarded requests and responses are byte-transparent except for stream ids
-/
namespace CqlVerif.C03
open CqlVerif.Wire CqlVerif.Frame

/-- **header_roundtrip** — for every nine header bytes (every version byte, direction, flag
combination, stream, opcode, declared length) re-encoding the decoded header gives the bytes back -/
theorem header_roundtrip (bs : Bytes) (h : Header) (r : Bytes) (hb : IsBytes bs)
    (hd : decodeHeader bs = some (h, r)) : encodeHeader h ++ r = bs := by
  match bs, hd with
  | v :: f :: s1 :: s2 :: o :: l1 :: l2 :: l3 :: l4 :: _, hd =>
    cases hd
    simp only [isBytes_cons] at hb
    obtain ⟨-, -, b1, b2, -, c1, c2, c3, c4, -⟩ := hb
    simp [encodeHeader, writeShort_digits b1 b2, writeInt_digits c1 c2 c3 c4]

theorem restream_transparent (h : Header) (body : Bytes) (stream : Nat) :
    transparent (encodeHeader h ++ body) (restream h body stream) stream := by
  simp [transparent, restream, encodeHeader, writeShort]

/-- **forward_transparent** (requests and, the other way round, responses alike) — for every raw frame (any version byte,
flags incl. tracing / custom payload / warnings / compression, opcode, body of any length and
content) and every stream id: what is written is the frame received with only the two stream
bytes replaced. -/
theorem forward_transparent (bs : Bytes) (h : Header) (body rest : Bytes) (stream : Nat) (hb : IsBytes bs)
    (hd : decodeRaw bs = some (h, body, rest)) (hr : rest = []) :
    transparent bs (restream h body stream) stream := by
  unfold decodeRaw at hd
  split at hd
  · cases hd
  next h' r hh =>
    split at hd <;> cases hd
    next ht =>
      rw [← header_roundtrip bs h r hb hh, ← (takeN_spec ht).1, hr, List.append_nil]
      exact restream_transparent h body stream

/-- the declared length is never touched by forwarding -/
theorem forward_length (h : Header) (body : Bytes) (stream : Nat) :
    (decodeHeader (restream h body stream)).map (·.1.length) = (decodeHeader (encodeHeader h ++ body)).map (·.1.length) := by
  simp [restream, encodeHeader, decodeHeader, writeShort, writeInt]

/-- non-vacuity: a v4 QUERY frame with the tracing flag, stream 0x1234 forwarded on stream 7 -/
example : restream { vbyte := 4, flags := 2, stream := 0x1234, opcode := 7, length := 3 } [1, 2, 3] 7 =
    [4, 2, 0, 7, 7, 0, 0, 0, 3, 1, 2, 3] := by decide

end CqlVerif.C03
