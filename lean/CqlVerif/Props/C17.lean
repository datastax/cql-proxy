import CqlVerif.Model.Hostile
import CqlVerif.Spec.PanicTable
import CqlVerif.Gen.PanicSites
import CqlVerif.Gen.LockOrder
import CqlVerif.Spec.LockOrder
import CqlVerif.Lemmas.Deadlock
import CqlVerif.Lemmas.StrCode
import CqlVerif.Model.Fanout
/-!
# C17 — Hostile or malformed peers cannot crash or wedge the proxy
-/
namespace CqlVerif.C17
open CqlVerif.Hostile CqlVerif.Wire CqlVerif.PartialCodec CqlVerif.Front

/-- **sites_justified** — every partial operation found in /repo's proxy, proxycore, codecs and
parser packages by the extractor (with the guards found on the way to it) has an entry in the
hand-written table. -/
theorem sites_justified :
    Gen.PanicSites.sites.all (fun s => PanicTable.table.any (fun e => e.1 == s)) = true := by
  rw [StrCode.decEq_eq]
  decide +kernel

theorem lexer_sites :
    Gen.PanicSites.lexerNext.all (fun e => PanicTable.lexerAllowed.contains e.1) = true := by decide

/-- **stores_typed** — every write into a sync.Map / atomic.Value / lru.Cache found in /repo stores
values of the one type declared for that container: the type assertions on loaded values (the
`invariant` entries of the table that name a container) cannot fail. -/
theorem stores_typed :
    Gen.PanicSites.stores.all (fun s => PanicTable.containerTypes.contains (s.2.1, s.2.2.2)) = true := by decide +kernel

section Go
variable {α β : Type}

@[simp]
theorem Go.pure_eq (a : α) : (pure a : Go α) = .ret a := rfl
@[simp]
theorem Go.ret_bind (a : α) (f : α → Go β) : (Go.ret a >>= f) = f a := rfl
@[simp]
theorem Go.ok_ret (a : α) : (Go.ret a).ok = true := rfl

/-! Within their bounds the partial operations return; a proof that a function cannot panic puts
the bounds in at each site and lets `simp` run the rest of the `do` block. -/

theorem goIndex_eq {l : List α} {i : Int} (h0 : 0 ≤ i) (h : i < l.length) (dflt : α) (site : String) :
    goIndex l i dflt site = .ret (l.getD i.toNat dflt) := if_pos ⟨h0, h⟩

theorem goSlice_eq {l : List α} {lo hi : Int} (h0 : 0 ≤ lo) (h1 : lo ≤ hi) (h2 : hi ≤ l.length) (site : String) :
    goSlice l lo hi site = .ret ((l.take hi.toNat).drop lo.toNat) := if_pos ⟨h0, h1, h2⟩

theorem goMod_eq {b : Int} (h : b ≠ 0) (a : Int) (site : String) : goMod a b site = .ret (a % b) := if_neg h

end Go

/-- `IdentifierFromString` as a total function -/
theorem identifierFromString_eq (id : Bytes) :
    identifierFromString id = .ret (if 1 < id.length ∧ id.getD 0 0 = 34
      then ⟨(id.take (id.length - 1)).drop 1, false⟩ else ⟨id, true⟩) := by
  unfold identifierFromString
  by_cases h : (id.length : Int) > 1
  · have h' : 1 < id.length := by omega
    simp only [h, ↓reduceIte, goIndex_eq (Int.le_refl 0) (show (0 : Int) < id.length by omega), Go.ret_bind, Go.pure_eq]
    split
    · simp_all [goSlice_eq (l := id) (lo := 1) (hi := id.length - 1) (by omega) (by omega) (by omega)]
    · simp_all
  · have h' : ¬ 1 < id.length := by omega
    simp [h, h']

/-- **identifier_no_panic** — `IdentifierFromString` returns for every byte string (a lone `"`,
the empty string, unbalanced quotes …) -/
theorem identifier_no_panic (id : Bytes) : (identifierFromString id).ok = true := by
  rw [identifierFromString_eq]; rfl

/-- the quoted form strips exactly the first and last byte -/
theorem identifier_quoted (s : Bytes) : identifierFromString (34 :: s ++ [34]) = .ret ⟨s, false⟩ := by
  simp [identifierFromString_eq]

/-- `queryHosts`' use of the `system.local` rows as a total function: the host list is indexed
only when it is not empty -/
theorem queryHostsLocal_eq (rows : List SysRow) :
    queryHostsLocal rows = .ret (if rows.length = 0 then none else (addHosts rows).head?) := by
  unfold queryHostsLocal
  cases h : addHosts rows with
  | nil => by_cases h1 : rows.length = 0 <;> simp [h1]
  | cons a t => by_cases h1 : rows.length = 0 <;> simp [h1, goIndex_eq (l := a :: t) (Int.le_refl 0) (by simp)]

/-- **queryHosts_no_panic** — whatever rows a backend returns for `system.local` (none, rows
without a usable address or data centre, several rows) the host list is never indexed when empty -/
theorem queryHosts_no_panic (rows : List SysRow) : (queryHostsLocal rows).ok = true := by
  rw [queryHostsLocal_eq]; rfl

/-- **queryHosts_hosts_nonempty** — a successful topology query yields at least one host, so
`Cluster.reconnect`'s `% len(c.hosts)` and `c.hosts[…]` are safe -/
theorem queryHosts_hosts_nonempty (rows : List SysRow) (dc : Nat) (h : queryHostsLocal rows = .ret (some dc)) :
    (addHosts rows).length ≠ 0 := by
  intro e
  simp [queryHostsLocal_eq, List.eq_nil_of_length_eq_zero e] at h

/-- the index `leastBusyConn` computes stays inside the slots scanned so far and those still to scan -/
theorem leastBusyIdx_lt (l : List (Option Int)) (i idx : Nat) (m : Int) (h : idx < i + l.length) :
    leastBusyIdx l i idx m < i + l.length := by
  fun_induction leastBusyIdx l i idx m <;> simp only [List.length_cons, List.length_nil] at * <;> omega

/-- **leastBusy_no_panic** — for every pool (any number of slots, empty slots anywhere) -/
theorem leastBusy_no_panic (conns : List (Option Int)) : (leastBusyConn conns).ok = true := by
  unfold leastBusyConn
  by_cases h0 : conns.length = 0
  · simp [h0]
  · by_cases h1 : conns.length = 1
    · simp [h1, goIndex_eq (l := conns) (Int.le_refl 0) (by omega)]
    · have hlt := leastBusyIdx_lt conns 0 0 2147483647 (by omega)
      simp [h0, h1, goIndex_eq (l := conns) (Int.natCast_nonneg _) (Int.ofNat_lt.mpr (by simpa using hlt))]

/-- **fillChildren_no_panic** — the BATCH child loop writes inside `make([]…, count)` for every
count and every body -/
theorem fillChildren_no_panic (count fuel : Nat) (bs : Bytes) (acc : List (Option Child))
    (hacc : acc.length = count) (hf : fuel ≤ count) : (fillChildren count fuel bs acc).ok = true := by
  induction fuel generalizing bs acc with
  | zero => rfl
  | succ n ih =>
    unfold fillChildren
    split
    · rfl
    · rw [if_pos (by omega)]
      exact ih _ _ (by simp [hacc]) (by omega)

theorem countArg_no_panic (args : List Bytes) : (countArg args).ok = true := by
  unfold countArg
  by_cases h : args.length = 0
  · simp [h]
  · simp [h, goIndex_eq (l := args) (Int.le_refl 0) (by omega)]

/-- **planNext_no_panic** — for every host list (the empty one included), offset and index -/
theorem planNext_no_panic (hosts : List Nat) (offset index : Nat) : (planNext hosts offset index).ok = true := by
  unfold planNext
  by_cases h : index ≥ hosts.length
  · simp [h]
  · have hl : (hosts.length : Int) ≠ 0 := by omega
    simp [h, goMod_eq hl, goIndex_eq (Int.emod_nonneg _ hl) (Int.emod_lt_of_pos _ (by omega))]

section
variable {bs a v r : Bytes} {n : Nat} {l : Int}

theorem takeN_length (h : takeN n bs = some (a, r)) : r.length ≤ bs.length := by
  unfold takeN at h
  split at h <;> cases h
  simp

theorem readInt_length (h : readInt bs = some (l, r)) : r.length ≤ bs.length := by
  unfold readInt at h
  split at h <;> cases h
  simp; omega

theorem readShort_length (h : readShort bs = some (n, r)) : r.length ≤ bs.length := by
  unfold readShort at h
  split at h <;> cases h
  simp; omega

theorem skipValue_length (h : skipValue bs = some (v, r)) : r.length ≤ bs.length := by
  unfold skipValue at h
  split at h
  · cases h
  · next hr =>
    have := readInt_length hr
    split at h
    · cases h; exact this
    · split at h <;> cases h
      next ht => exact Nat.le_trans (takeN_length ht) this

theorem skipValues_length (h : skipValues n bs = some (v, r)) : r.length ≤ bs.length := by
  induction n generalizing bs v r with
  | zero => cases h; exact Nat.le_refl _
  | succ k ih =>
    unfold skipValues at h
    split at h
    · cases h
    · next h0 =>
      split at h <;> cases h
      next h1 => exact Nat.le_trans (ih h1) (skipValue_length h0)

end

/-- **skipPositionalValues_suffix** — the remainder a partial decoder hands back is no longer than
what it was given: `BytesSince(pos)` / `RemainingBytes()` slice within the body -/
theorem skipPositionalValues_suffix (bs v r : Bytes) (h : skipPositionalValues bs = some (v, r)) : r.length ≤ bs.length := by
  unfold skipPositionalValues at h
  split at h
  · cases h
  · next h0 =>
    split at h <;> cases h
    next h1 => exact Nat.le_trans (skipValues_length h1) (readShort_length h0)

/-- **malformed_closed** — on a connection without compression (`c = false`) a request frame whose body the
decoders reject is never routed or answered as if it were valid: the connection is closed (or, for a version outside the accepted
range, answered with the version error) -/
theorem malformed_closed (max vbyte flags opcode : Nat) (body : Bytes) (c : Bool)
    (hbad : bodyMsg (vbyte % 128) flags opcode body = none) (hc : c = false) :
    (receive max c vbyte flags opcode body).1 = .out .closed ∨ (receive max c vbyte flags opcode body).1 = .out .perrVersion := by
  subst hc
  unfold receive
  by_cases h : (vclass max vbyte).outOfRange = true
  · simp [h]
  · simp [h, hbad]

/-- **routed_wellformed** — only a frame inside the accepted version range whose body decodes as
PREPARE / QUERY / EXECUTE / BATCH reaches the request path -/
theorem routed_wellformed (max vbyte flags opcode : Nat) (body : Bytes) (c : Bool)
    (h : (receive max c vbyte flags opcode body).1 = .out .routed) :
    (vclass max vbyte).outOfRange = false ∧
    ∃ m, bodyMsg (vbyte % 128) flags opcode body = some m ∧ (m = .query ∨ m = .execute ∨ m = .batch ∨ ∃ q k, m = .prepare q k) := by
  unfold receive at h
  by_cases ho : (vclass max vbyte).outOfRange = true
  · simp [ho] at h
  · simp only [ho, Bool.false_eq_true, ↓reduceIte] at h
    refine ⟨by simpa using ho, ?_⟩
    split at h
    · cases h
    · split at h
      · cases h
      · next m hm =>
        refine ⟨m, hm, ?_⟩
        cases m <;> simp at h ⊢
        -- what is left is STARTUP, answered `ready` or `perrCompression`
        split at h <;> (try split at h) <;> cases h

/-- **isolation** — what a connection observes is a function of the configured maximum version
and of the bytes received on that connection alone: nothing another (hostile) connection sends
appears among the arguments of `clientStream`.  Stated as a congruence so that it is checked. -/
theorem isolation (max : Nat) (mine theirs1 theirs2 : Bytes) :
    (fun (_ : Bytes) => clientStream max (mine.length + 1) false mine) theirs1 =
    (fun (_ : Bytes) => clientStream max (mine.length + 1) false mine) theirs2 := rfl

/-- non-vacuity: the frames of the failing input found on the unrepaired tree (STARTUP, then a v5
PREPARE whose keyspace is a lone double quote) are accepted and routed, and the keyspace is exactly
the string `IdentifierFromString` used to panic on -/
example : bodyMsg 5 0 9 ([0,0,0,15] ++ [83,69,76,69,67,84,32,118,32,70,82,79,77,32,116] ++ [0,0,0,1] ++ [0,1,34]) =
    some (.prepare [83,69,76,69,67,84,32,118,32,70,82,79,77,32,116] [34]) := by decide
example : identifierFromString [34] = .ret ⟨[34], true⟩ := by decide
example : queryHostsLocal [⟨true, none⟩, ⟨false, some 1⟩] = .ret none := by decide

/-- **lock_order_ranked** — every place in proxy/ and proxycore/ where a mutex is acquired while
another may be held (any path through the function, any caller: may-hold analysis over the typed
SSA and the VTA call graph of the current source) goes strictly up in `LockOrder.rank`: in particular
no two locks of the same class are ever nested and no leaf lock is held while another is taken -/
theorem lock_order_ranked :
    Gen.LockOrder.edges.all (fun e => decide (LockOrder.rank e.1 < LockOrder.rank e.2.1)) = true := by decide +kernel

/-- **sends_under_lock_allowed** — a goroutine blocks on a channel send only while holding nothing,
the start-up lock or its own request's lock: never while holding a lock that the requests of other
clients need (the session table's lock, a pool's, a connection's) -/
theorem sends_under_lock_allowed :
    Gen.LockOrder.sends.all (fun e => LockOrder.sendHolders.contains e.1) = true := by decide +kernel

/-- **no_lock_deadlock** — with locks acquired in rank order (what `lock_order_ranked` establishes
class by class; two locks of one class are never nested, so the class rank is a rank of instances)
there is no cycle of goroutines each waiting for a lock the next one holds, in any state -/
theorem no_lock_deadlock (rank : Deadlock.Lock → Nat) (s : Deadlock.St) (hr : Deadlock.Ranked rank s)
    (t : Deadlock.Thread) (ts : List Deadlock.Thread) (hc : Deadlock.WaitChain s t ts) :
    ¬ ∃ l, s.waits ((t :: ts).getLast (by simp)) = some l ∧ l ∈ s.holds t :=
  Deadlock.no_deadlock_of_ranked rank s hr t ts hc

/-- non-vacuity: the extracted tables are not empty, and the nesting the order exists for is there -/
example : Gen.LockOrder.edges.length > 5 ∧ Gen.LockOrder.sends.length > 2 ∧
    Gen.LockOrder.edges.any (fun e => e.1 == "proxy.request.mu" && e.2.1 == "proxycore.ClientConn.closingMu") = true := by decide +kernel

/-- what keeps the other client waiting: its answer is behind answers for client 0 that do not fit -/
def Starved (t1 : Nat) (rest : List (Nat × Nat)) (s : Fanout.St) : Prop :=
  s.delivered 1 = [] ∧ s.queue 1 = [] ∧ ∃ pre : List Nat, s.inbox = pre.map (0, ·) ++ (1, t1) :: rest ∧
    1 ≤ pre.length ∧ (s.queue 0).length + pre.length = s.cap + 1

theorem starved_step {t1 : Nat} {rest : List (Nat × Nat)} {s : Fanout.St} {a : Fanout.Act} (ha : a ≠ .drain 0)
    (h : Starved t1 rest s) : Starved t1 rest (Fanout.step s a) := by
  have ⟨hd1, hq1, pre, hin, hlen, hsum⟩ := h
  cases a with
  | deliver =>
    -- the next answer is for client 0: it is queued only if it fits, and then another one is behind it
    obtain _ | ⟨t, pre'⟩ := pre
    · simp at hlen
    simp only [Fanout.step, hin, List.map_cons, List.cons_append]
    split
    · exact ⟨hd1, by simpa [Fanout.set] using hq1, pre', rfl, by simp at hsum; omega, by simp [Fanout.set] at hsum ⊢; omega⟩
    · exact h
  | drain c =>
    -- client 1 has nothing to read, and another client's reading leaves clients 0 and 1 alone
    have hc0 : c ≠ 0 := fun e => ha (e ▸ rfl)
    simp only [Fanout.step]
    split
    · exact h
    · next hq =>
      have hc1 : c ≠ 1 := fun e => by simp [e, hq1] at hq
      exact ⟨by simpa [Fanout.set, hc1.symm] using hd1, by simpa [Fanout.set, hc1.symm] using hq1,
        pre, hin, hlen, by simpa [Fanout.set, hc0.symm] using hsum⟩

/-- **nonreading_client_starves_others** (the negation of what C17 asks, for the code as it stands: the open finding
`C17:canary:H` of known_findings.json) —
whatever the queue capacity: once a backend connection carries one answer more for a client that
does not read than that client's queue holds, the answer behind them for another client is never
delivered, however long the other client keeps reading and whatever else happens - until the first
client reads or goes away.  Replayed on the real proxy by the hostile stream's `H:` attack. -/
theorem nonreading_client_starves_others (cap : Nat) (tags : List Nat) (htags : tags.length = cap + 1) (t1 : Nat)
    (as : List Fanout.Act) (hno : ∀ a ∈ as, a ≠ Fanout.Act.drain 0) :
    (Fanout.run { cap := cap, inbox := tags.map (fun t => (0, t)) ++ [(1, t1)] } as).delivered 1 = [] := by
  have h0 : Starved t1 [] { cap := cap, inbox := tags.map (fun t => (0, t)) ++ [(1, t1)] } :=
    ⟨rfl, rfl, tags, rfl, by simp [htags], by simp [htags]⟩
  exact (List.foldlRecOn as Fanout.step h0 fun s h a ha => starved_step (hno a ha) h).1

/-- … and as soon as that client does read, the other one is served (the model is not stuck for good) -/
example : (Fanout.run { cap := 2, inbox := [(0, 10), (0, 11), (0, 12), (1, 77)] }
    [.deliver, .deliver, .deliver, .drain 0, .deliver, .deliver, .drain 1]).delivered 1 = [77] := by decide

end CqlVerif.C17
