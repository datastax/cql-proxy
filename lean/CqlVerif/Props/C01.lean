import CqlVerif.Lemmas.CoreStep
import CqlVerif.Props.C05
/-!
# C01 — Exactly one response per client request, on the request's own stream

Model: `Model/Core.lean` — any number of clients, requests, hosts, connections and streams; every
interleaving of the atomic handler steps (`Act` lists of any length), every backend outcome,
connection deaths at any point, stale pending entries left behind by failed writes, duplicate
close notifications. Safety ("never two", "on its own stream") is proved outright.  The liveness half ("never none")
is proved as a safety invariant of the same concurrent model (`unanswered_is_owned`: a request
without an answer always has a backend frame on the wire of a live connection or a close
notification still due, so `quiescent_all_answered`: once nothing is in flight every request has
its answer) and, for the single-request life-cycle, as termination (`Model/Retry.lean`).  That the
backend answers what is on a live wire, and that `Closing` and its notifications do run, are the
runtime's part; the correspondence streams exercise them (DESIGN.md §5 C01).
-/
namespace CqlVerif.C01
open CqlVerif.Core

/-- **replies_le_one** — in every reachable state every request has been answered at most once,
and exactly once iff it is done; nothing is ever written for a request that does not exist. -/
theorem replies_le_one (as : List Act) (r : Nat) :
    cnt (run as).out r ≤ 1 ∧ (cnt (run as).out r = 1 ↔ r < (run as).nreq ∧ ((run as).req r).done = true) := by
  rw [(reachable as).inv.one r]
  split <;> simp_all

/-- **reply_on_own_stream** — every frame written to a client is addressed to the client
connection and the stream id of the request it answers. -/
theorem reply_on_own_stream (as : List Act) :
    ∀ e ∈ (run as).out, e.client = ((run as).req e.rid).client ∧ e.cstream = ((run as).req e.rid).cstream :=
  (reachable as).inv.addr

/-- `reply_on_own_stream` for the state right after a `clientReq`: the replies to the new request carry the
address in its record -/
theorem reply_matches_request (as : List Act) (client : Nat) (cstream : Int) (idem : Bool) (plan ws) :
    let s := run (as ++ [.clientReq client cstream idem plan ws])
    ∀ e ∈ s.out, e.rid = (run as).nreq → e.client = (s.req e.rid).client ∧ e.cstream = (s.req e.rid).cstream := by
  intro s e he _
  exact (reachable _).inv.addr e he

/-- single-request liveness (from `Model/Retry`): once every attempt has been answered or dropped
(`plan + 1` outcomes, + one per re-execution after a re-prepare) the request is done, i.e. it has
been answered — whatever the outcomes and however hosts go down between attempts. -/
theorem answered_when_attempts_answered (down : Nat → Retry.Host → Bool) (idem : Bool) (plan : List Retry.Host)
    (script : List Retry.Outcome) (hns : Retry.noSilent script = true)
    (hlen : plan.length + 1 + RetrySpec.countReprepOk script ≤ script.length) :
    (Retry.run down idem plan script).done = true ∧ (Retry.run down idem plan script).reply.isSome = true := by
  have hd := C05.terminates down idem plan script hns hlen
  exact ⟨hd, Retry.go_done_has_reply down script .next _ (by simp) hd⟩

/-- **unanswered_is_owned** — in every reachable state, whatever the interleaving, the connection
deaths, the failed writes and the recycling of stream ids: a request that has not been answered is
owned — a frame sent on its behalf (the request itself or a re-prepare for it) is on the wire of a
live backend connection, or is registered on a dead connection whose `Closing` has yet to run, or
an `OnClose` notification for it is still due.  No handler lets a request slip out of all three. -/
theorem unanswered_is_owned (as : List Act) (r : Nat) (hr : r < (run as).nreq) :
    ((run as).req r).done = true ∨ Owned (run as) r :=
  (reachable as).live r hr

/-- what "nothing is in flight" means: every connection ever opened has an empty wire, has run
`Closing` if it is dead, and has delivered all its close notifications -/
def Quiescent (s : St) : Prop :=
  ∀ c, c < s.nconn → (s.conn c).wire = [] ∧ ((s.conn c).dead = true → (s.conn c).notified = true) ∧ (s.conn c).toNotify = []

/-- **quiescent_all_answered** — once nothing is in flight, every request the proxy accepted has
been answered, exactly once -/
theorem quiescent_all_answered (as : List Act) (hq : Quiescent (run as)) (r : Nat) (hr : r < (run as).nreq) :
    cnt (run as).out r = 1 := by
  rcases unanswered_is_owned as r hr with hd | ⟨c, hc⟩
  · exact (replies_le_one as r).2.mpr ⟨hr, hd⟩
  · refine absurd hc ?_
    by_cases hcn : c < (run as).nconn
    · obtain ⟨h1, h2, h3⟩ := hq c hcn
      exact not_ownedBy h1 h2 h3
    · exact ((reachable as).aux c).unused_not_owned (Nat.le_of_not_lt hcn)

/-- the registration guard matters: a send accepted on a connection leaves the request owned only
because `closing` (set together with the hand-over to the notifier) refuses late registrations -/
theorem accepted_send_is_owned (as : List Act) (c : ConnId) (hd : Handle) (w : Bool)
    (hok : (sendTo (run as) c hd w).2 = true) : Owned (sendTo (run as) c hd w).1 hd.rid := by
  obtain ⟨e, _⟩ | ⟨k, e, hk⟩ := sendTo_spec (run as) c hd w <;> rw [e] at hok ⊢
  · cases hok
  · exact ⟨c, by simpa using hk.owned ((reachable as).aux c)⟩

/-- non-vacuity: two hosts, an idempotent request in flight on host 0 whose connection dies; it
fails over to host 1, whose answer is delivered — once. -/
example :
    let s := run [.connect 0 0 4, .connect 1 0 4, .clientReq 7 3 true [0, 1] [], .connDead 0, .closing 0, .notifyNext 0 [],
                  .backendReply 1 0 .success [], .closing 0, .notifyNext 0 []]
    s.out.map (fun e => (e.rid, e.client, e.cstream)) = [(0, 7, 3)] := by
  decide

/-- non-vacuity of `Quiescent`: that final state is quiescent (and has a request); the state just
before host 1 answers is not -/
example :
    let s := run [.connect 0 0 4, .connect 1 0 4, .clientReq 7 3 true [0, 1] [], .connDead 0, .closing 0, .notifyNext 0 [],
                  .backendReply 1 0 .success [], .closing 0, .notifyNext 0 []]
    s.nreq = 1 ∧ s.nconn = 2 ∧ ∀ c, c < 2 → (s.conn c).wire = [] ∧ ((s.conn c).dead = true → (s.conn c).notified = true) ∧ (s.conn c).toNotify = [] := by
  decide
example :
    let s := run [.connect 0 0 4, .connect 1 0 4, .clientReq 7 3 true [0, 1] [], .connDead 0, .closing 0, .notifyNext 0 []]
    (s.conn 1).wire ≠ [] ∧ (s.req 0).done = false := by
  decide

end CqlVerif.C01
