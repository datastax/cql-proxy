import CqlVerif.Props.C19
#print axioms CqlVerif.C19.tls_shape_ok
#print axioms CqlVerif.C19.Path.root_signature
#print axioms CqlVerif.C19.chainOk_sound
#print axioms CqlVerif.C19.accept_cons
#print axioms CqlVerif.C19.accept_sound
#print axioms CqlVerif.C19.reject_empty
#print axioms CqlVerif.C19.reject_wrong_name
#print axioms CqlVerif.C19.reject_outside_validity
#print axioms CqlVerif.C19.reject_untrusted
#print axioms CqlVerif.C19.client_identity
