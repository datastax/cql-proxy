import CqlVerif.Lemmas.Codec
/-!
# C11 — Partial QUERY/EXECUTE/BATCH codecs agree with the reference protocol codecs

A *valid* body is what the reference encoder writes: the head fields the proxy looks at, in the
reference layout, followed by whatever the reference writes after the consistency level
(`params`, opaque here) — i.e. `encodeX p` for a partial message `p` with in-range sizes. The
differential `codec` stream checks on every run that the reference encoder's bodies are of that
form (same fields extracted by the real partial codec and by the reference decoder).
-/
namespace CqlVerif.C11
open CqlVerif.Wire CqlVerif.PartialCodec

/- In the proofs below a decoder applied to an encoding is opened with `rw`, and `simp only` gets
the read-back lemma of every field: `unfold decodeX` and `simp only [decodeX]` try to decide the
decoder's `match` by evaluating `readX (writeX …)` on the open term, and do not come back. -/

/-- **agree_query** — partial decoding of a valid QUERY body succeeds and returns exactly the
query string, consistency and remaining bytes that were written; hence re-encoding gives the
body back. For all query strings (any length below 2^31), consistencies and parameter bytes. -/
theorem agree_query (p : PQuery) (hq : p.query.length < 2147483648) (hc : p.consistency < 65536) :
    decodeQuery (encodeQuery p) = some p := by
  rw [encodeQuery, List.append_assoc, decodeQuery, write_readLongString hq]
  simp only [write_readShort hc]

theorem reencode_query (p : PQuery) (hq : p.query.length < 2147483648) (hc : p.consistency < 65536) :
    (decodeQuery (encodeQuery p)).map encodeQuery = some (encodeQuery p) := by
  rw [agree_query p hq hc]; rfl

/-- **agree_execute** — for versions with and without a result-metadata id -/
theorem agree_execute (rmid : Bool) (p : PExecute) (hid : p.id ≠ []) (hil : p.id.length < 65536)
    (hrm : if rmid then p.resultMetadataId ≠ [] ∧ p.resultMetadataId.length < 65536 else p.resultMetadataId = [])
    (hc : p.consistency < 65536) :
    decodeExecute rmid (encodeExecute rmid p) = some p := by
  rw [encodeExecute, List.append_assoc, List.append_assoc, decodeExecute, write_readShortBytes hil]
  cases rmid
  · simp only [hid, ↓reduceIte, Bool.false_eq_true, List.nil_append, write_readShort hc]
    cases p; simp_all
  · simp only [↓reduceIte] at hrm
    simp only [hid, hrm.1, ↓reduceIte, write_readShortBytes hrm.2, write_readShort hc]

/-- **reencode_execute (every body)** — whatever bytes arrive: if the partial decoder accepts an
EXECUTE body, re-encoding the decoded message reproduces the body exactly -/
theorem reencode_execute (rmid : Bool) (bs : Bytes) (p : PExecute) (hb : IsBytes bs)
    (h : decodeExecute rmid bs = some p) : encodeExecute rmid p = bs := by
  rw [decodeExecute] at h
  split at h
  · cases h
  next id r h1 =>
    have e1 := readShortBytes_write h1 hb
    have hr := isBytes_suffix e1 hb
    split at h
    · cases h
    cases rmid
    · simp only [Bool.false_eq_true, ↓reduceIte] at h
      split at h <;> cases h
      next c r' h2 => simp [encodeExecute, ← e1, ← readShort_write h2 hr]
    · simp only [↓reduceIte] at h
      split at h
      · cases h
      next rm r' h2 =>
        have e2 := readShortBytes_write h2 hr
        split at h
        · cases h
        split at h <;> cases h
        next c r'' h3 => simp [encodeExecute, ← e1, ← e2, ← readShort_write h3 (isBytes_suffix e2 hr)]

/-- a value list the skipper consumes exactly -/
def ValuesOK (v : Bytes) : Prop := ∀ rest, skipPositionalValues (v ++ rest) = some (v, rest)

def ChildOK : Child → Prop
  | .query q v => q.length < 2147483648 ∧ ValuesOK v
  | .prepared id v => id.length < 65536 ∧ ValuesOK v

theorem decode_encode_child {c : Child} {r : Bytes} (h : ChildOK c) : decodeChild (encodeChild c ++ r) = some (c, r) := by
  cases c <;> rw [encodeChild, List.append_assoc, List.append_assoc, decodeChild]
  · simp only [List.cons_append, List.nil_append, readByte, ↓reduceIte, write_readLongString h.1, h.2 r]
  · simp only [List.cons_append, List.nil_append, readByte, Nat.succ_ne_zero, ↓reduceIte, write_readShortBytes h.1, h.2 r]

theorem decode_encode_children {cs : List Child} {r : Bytes} (h : ∀ c ∈ cs, ChildOK c) :
    decodeChildren cs.length ((cs.map encodeChild).flatten ++ r) = some (cs, r) := by
  induction cs with
  | nil => rfl
  | cons c t ih =>
    simp only [List.forall_mem_cons] at h
    simp only [List.length_cons, List.map_cons, List.flatten_cons, List.append_assoc, decodeChildren,
      decode_encode_child h.1, ih h.2]

/-- **agree_batch** — any number of children (< 2^16), string and prepared children with any
positional values, every batch type -/
theorem agree_batch (p : PBatch) (ht : p.type ≤ 2) (hn : p.children.length < 65536)
    (hch : ∀ c ∈ p.children, ChildOK c) (hc : p.consistency < 65536) :
    decodeBatch (encodeBatch p) = some p := by
  rw [encodeBatch, decodeBatch]
  simp only [List.append_assoc, List.cons_append, List.nil_append, readByte, Nat.not_lt.mpr ht, ↓reduceIte,
    write_readShort hn, decode_encode_children hch, write_readShort hc]

/-- **decode_total** — the decoders are total functions of the byte string: every input yields a
message or an error, never a crash, and nothing is read beyond the bytes given (the model reads
from a finite list). -/
theorem decode_total (bs : Bytes) (rmid : Bool) :
    (∃ r, decodeQuery bs = r) ∧ (∃ r, decodeExecute rmid bs = r) ∧ (∃ r, decodeBatch bs = r) := ⟨⟨_, rfl⟩, ⟨_, rfl⟩, ⟨_, rfl⟩⟩

/-- truncated bodies are rejected: an empty body is an error for all three -/
example : decodeQuery [] = none ∧ decodeExecute true [] = none ∧ decodeBatch [] = none := by decide

/-- non-vacuity: a v4 EXECUTE `id=ab, consistency QUORUM, flags 0` and a two-child batch -/
example : decodeExecute false [0, 1, 0xab, 0, 4, 0] = some { id := [0xab], consistency := 4, params := [0] } ∧
    (decodeBatch [1, 0, 2, 0, 0, 0, 0, 1, 0x41, 0, 0, 1, 0, 2, 7, 8, 0, 1, 0, 0, 0, 1, 9, 0, 6, 0]).map (·.children.length) = some 2 := by
  decide

end CqlVerif.C11
