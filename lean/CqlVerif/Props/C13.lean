import CqlVerif.Spec.GateSpec
import CqlVerif.Spec.GateShape
import CqlVerif.Gen.GateFacts
/-!
# C13 — Handshake, version negotiation and compression selection are answered locally

Model: `Model/Front.lean`. Tie: the `gate` stream probes the real proxy with one fresh
connection per (version byte, opcode, configured maximum) — all 256 opcodes for every known
version in both directions and every unknown version byte in the thorough tier — and with
handshake sequences, and compares with `Front.gate` / `Front.startup`; the `gate` translator reads the shape of
`client.Receive` off /repo's current source (`Gen/GateFacts.lean`, regenerated on every run).
-/
namespace CqlVerif.C13
open CqlVerif.Front CqlVerif.GateSpec

theorem classOf_eq_vclass (max vbyte : Nat) : classOf max vbyte = vclass max vbyte := rfl

/-- the gate's outcome is one the property allows, for every class of version byte, every opcode (not only bytes) and
every body: the seven opcodes the dispatch knows by evaluation; for any other opcode the two `match`es on it fall through
to their last case, and only its membership in the two opcode lists is left -/
theorem gateC_allowed (c : VClass) (op : Nat) (b : Bool) : allowedC c op b (gateC c op b) = true := by
  obtain ⟨k, o, r⟩ := c
  by_cases h : op ∈ [5, 1, 11, 7, 9, 10, 13]
  · simp only [List.mem_cons, List.not_mem_nil, or_false] at h
    rcases h with rfl | rfl | rfl | rfl | rfl | rfl | rfl <;> revert k o r b <;> decide
  · simp only [List.mem_cons, List.not_mem_nil, or_false, not_or] at h
    unfold allowedC gateC
    delta gateC.match_1 allowedC.match_1
    simp only [h, ↓reduceDIte]
    generalize requestOps.contains op = rq
    generalize responseOps.contains op = rs
    revert k o r b rq rs
    decide

/-- every class of version byte × every opcode byte × decodable or not -/
theorem gateC_ok :
    ([true, false].all fun k => [true, false].all fun o => [true, false].all fun r => [true, false].all fun b =>
      (List.range 256).all fun op => allowedC ⟨k, o, r⟩ op b (gateC ⟨k, o, r⟩ op b)) = true := by
  simp only [List.all_eq_true]
  exact fun _ _ _ _ _ _ _ _ _ _ => gateC_allowed ..

/-- **gate_ok** — for every version byte the wire format can carry, every opcode byte, every body
(decodable or not) and every configured maximum, the model's outcome is one the property allows. -/
theorem gate_ok (max vbyte opcode : Nat) (ho : opcode < 256) (bodyOk : Bool) :
    allowed max ⟨vbyte, opcode, bodyOk⟩ (gate max ⟨vbyte, opcode, bodyOk⟩) = true :=
  gateC_allowed ..

/-- outside the accepted range neither the body nor the dispatch on the opcode matters: a frame
the library's header checks let through gets the version error, any other closes the connection -/
theorem gateC_outOfRange {c : VClass} {op : Nat} {b : Bool} (h : c.outOfRange = true) :
    gateC c op b = if c.known && (if c.resp then responseOps.contains op else requestOps.contains op)
      then .perrVersion else .closed := by
  obtain ⟨k, _, r⟩ := c
  cases h
  unfold gateC
  generalize requestOps.contains op = rq
  generalize responseOps.contains op = rs
  cases k <;> cases r <;> cases rq <;> cases rs <;> rfl

/-- **gate_closed_form** — a known version outside `[3, max]` on a request frame always yields the
version error, never anything else, in particular nothing is routed -/
theorem gate_closed_form (max : Nat) (p : Probe) (hk : knownVersions.contains (p.vbyte % 128) = true)
    (hreq : p.vbyte < 128) (hop : requestOps.contains p.opcode = true)
    (hout : p.vbyte % 128 > max ∨ p.vbyte % 128 < 3) : gate max p = .perrVersion := by
  rw [gate, gateC_outOfRange (by simp [vclass, hout])]
  simp only [vclass, hk, hop, Nat.not_le.mpr hreq, decide_false, Bool.false_eq_true, ↓reduceIte, Bool.and_self]

/-- nothing below v3 or above the maximum is ever routed, whatever the frame -/
theorem out_of_range_never_routed (max : Nat) (p : Probe) (hout : p.vbyte % 128 > max ∨ p.vbyte % 128 < 3) :
    gate max p ≠ .routed := by
  rw [gate, gateC_outOfRange (by simp [vclass, hout])]
  generalize (_ && _) = x
  cases x <;> simp

/-- **startup_one_frame** — STARTUP is answered by exactly one frame, for every option map -/
theorem startup_one_frame (c : Conn) (comp : Option String) : (startup c comp).1.length = 1 := by
  unfold startup; split <;> (try split) <;> rfl

/-- an unsupported compression gets only an error and leaves the connection's codec unchanged -/
theorem unsupported_compression_only_error (c : Conn) (v : String)
    (h : supportedCompressions.contains (lowerAscii v) = false) :
    startup c (some v) = ([.perrCompression], c) := by
  simp only [startup, h]; rfl

/-- a supported one (any letter case) switches this connection to that algorithm -/
theorem supported_compression_switches (c : Conn) (v : String)
    (h : supportedCompressions.contains (lowerAscii v) = true) :
    startup c (some v) = ([.ready], { c with compression := lowerAscii v }) := by
  simp only [startup, h]; rfl

/-- non-vacuity: a version above the maximum, a DSE version under a v4 maximum and under a DSE one, a version below
v3, an unknown version byte, a v4 QUERY -/
example : gate 4 ⟨5, 1, true⟩ = .perrVersion ∧ gate 4 ⟨65, 5, true⟩ = .perrVersion ∧ gate 66 ⟨65, 5, true⟩ = .supported ∧
    gate 4 ⟨2, 1, true⟩ = .perrVersion ∧ gate 4 ⟨6, 1, true⟩ = .closed ∧ gate 4 ⟨4, 7, true⟩ = .routed := by decide

/-- **gate_shape_ok** — the facts read off /repo's current `client.Receive` (order of the steps, the gate's condition
and body, what every case of the dispatch does) are the ones Model/Front.lean models (regenerated on every run) -/
theorem gate_shape_ok : Gen.GateFacts.facts = GateShape.expected := rfl

end CqlVerif.C13
