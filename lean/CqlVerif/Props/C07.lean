import CqlVerif.Model.Keyspace
/-!
# C07 — Requests run in the client's current keyspace, protocol version and compression
-/
namespace CqlVerif.C07
open CqlVerif.Keyspace

/-- every cached session was created with exactly its key: its connections are in the keyspace the
key's text denotes, and that keyspace exists -/
def SessInv (missing : String → Bool) (s : St) : Prop :=
  ∀ sess ∈ s.sessions, sess.connKeyspace = (if sess.key.keyspace = "" then "" else canon sess.key.keyspace) ∧
    (sess.key.keyspace ≠ "" → missing (canon sess.key.keyspace) = false)

/-- every client's current keyspace exists on the backend (only successful USEs change it) -/
def ClientInv (missing : String → Bool) (s : St) : Prop :=
  ∀ c ∈ s.clients, c.keyspace ≠ "" → missing (canon c.keyspace) = false

theorem getSession_clients (missing : String → Bool) (s : St) (k : Key) : (getSession missing s k).2.clients = s.clients := by
  unfold getSession
  split
  · rfl
  · split <;> rfl

theorem getSession_spec (missing : String → Bool) (s : St) (k : Key) (h : SessInv missing s) :
    SessInv missing (getSession missing s k).2 ∧ (getSession missing s k).2.clients = s.clients ∧
    (∀ sess, (getSession missing s k).1 = some sess →
        sess.key = k ∧ sess.connKeyspace = (if k.keyspace = "" then "" else canon k.keyspace)) ∧
    ((getSession missing s k).1 = none → k.keyspace ≠ "" ∧ missing (canon k.keyspace) = true) := by
  unfold getSession
  split
  next sess hf =>
    obtain rfl : sess.key = k := by simpa using List.find?_some hf
    exact ⟨h, rfl, fun _ e => by cases e; exact ⟨rfl, (h sess (List.mem_of_find?_eq_some hf)).1⟩, by simp⟩
  · split
    next hc => exact ⟨h, rfl, by simp, fun _ => hc⟩
    next hc =>
      simp only [ne_eq, not_and, Bool.not_eq_true] at hc
      exact ⟨List.forall_mem_cons.mpr ⟨⟨rfl, hc⟩, h⟩, rfl, fun _ e => by cases e; exact ⟨rfl, rfl⟩, by simp⟩

/-- **forward_uses_current** — in every state whose cached sessions and clients satisfy `SessInv` and
`ClientInv` (what USEs and requests of any clients are meant to leave behind): a forwarded request of
client `i` runs on a backend connection whose keyspace is what the client's current keyspace text
denotes, speaking the client's version and compression. -/
theorem forward_uses_current (missing : String → Bool) (s : St) (i : Nat) (c : Client)
    (hs : SessInv missing s) (hc : ClientInv missing s) (hi : s.clients[i]? = some c) :
    (forward missing s i).1 =
      some (.forwarded (if c.keyspace = "" then "" else canon c.keyspace) c.version c.compression) := by
  unfold forward
  simp only [hi]
  have h := (getSession_spec missing s ⟨c.version, c.keyspace, c.compression⟩ hs).2.2
  split
  next s' heq =>
    rw [heq] at h
    have := h.2 rfl
    have := hc c (List.mem_of_getElem? hi) this.1
    simp_all
  next sess s' heq =>
    rw [heq] at h
    obtain ⟨e1, e2⟩ := h.1 sess rfl
    simp [e1, e2]

/-- **use_failure_frame** — a failed USE changes nothing for the client (nor for anybody else) -/
theorem use_failure_frame (missing : String → Bool) (s : St) (i : Nat) (raw : String)
    (h : (useKs missing s i raw).1 = some .backendError) : (useKs missing s i raw).2.clients = s.clients := by
  unfold useKs at h ⊢
  split at h
  · rfl
  next c _ =>
    have hcl := getSession_clients missing s ⟨c.version, raw, c.compression⟩
    split at h
    next heq => rwa [heq] at hcl
    · cases h

/-- **use_success** — a successful USE names the keyspace as the backend
would, and leaves every other client as it was -/
theorem use_success (missing : String → Bool) (s : St) (i : Nat) (raw : String) (name : String)
    (h : (useKs missing s i raw).1 = some (.setKeyspace name)) :
    name = canon raw ∧ ∀ j, j ≠ i → (useKs missing s i raw).2.clients[j]? = s.clients[j]? := by
  unfold useKs at h ⊢
  split at h
  · cases h
  next c _ =>
    have hcl := getSession_clients missing s ⟨c.version, raw, c.compression⟩
    split at h
    · cases h
    next heq =>
      rw [heq] at hcl
      cases h
      exact ⟨rfl, fun j hj => by simp only [setClient]; rw [hcl, List.getElem?_set_ne (Ne.symm hj)]⟩

/-- non-vacuity: quoted names keep their case and unescape doubled quotes, unquoted ones fold -/
example : canonChars ['"', 'M', 'i', ' ', 'X', '"'] = ['M', 'i', ' ', 'X'] ∧ canonChars ['A', 'p', 'P'] = ['a', 'p', 'p'] ∧
    canonChars ['"', 'w', '"', '"', 'e', '"'] = ['w', '"', 'e'] := by decide

end CqlVerif.C07
