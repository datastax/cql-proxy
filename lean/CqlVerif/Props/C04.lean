import CqlVerif.Spec.RetryGateShape
import CqlVerif.Gen.RetryGateFacts
import CqlVerif.Lemmas.Retry
/-!
# C04 — Non-idempotent requests are never re-executed once they may have been applied

`Retry.run` with `idem = false` stands for every request the proxy does not positively classify
as idempotent (the classification itself is C06's subject).
-/
namespace CqlVerif.C04
open CqlVerif.Retry CqlVerif.RetrySpec

/-- **no_unsafe_reexec** — for every plan, every outcome script (including connection loss at any
point and every re-prepare outcome) and every way hosts go down: a request not classified
idempotent is sent again only after an outcome that guarantees the previous attempt was not
applied (unavailable, bootstrapping, read timeout, unprepared). -/
theorem no_unsafe_reexec (down : Nat → Host → Bool) (plan : List Host) (script : List Outcome) :
    ∀ k, k + 1 < (run down false plan script).attempts.length →
      ∃ o, script[k]? = some o ∧ safeToResend o = true := fun k hk =>
  go_attempts_safe down script .next { plan := plan, idem := false } rfl k (by simpa [run] using hk)

/-- the executable form used as oracle on observed traces agrees with the theorem -/
theorem no_unsafe_reexec_oracle (down : Nat → Host → Bool) (plan : List Host) (script : List Outcome) :
    noUnsafeReexec false script (run down false plan script).attempts.length = true := by
  simp only [noUnsafeReexec, Bool.false_or, List.all_eq_true, List.mem_range]
  intro k hk
  obtain ⟨o, ho, hs⟩ := no_unsafe_reexec down plan script k (by omega)
  simp [ho, hs]

/-- after a write timeout, server/overloaded/truncate error, read/write failure or connection
loss the non-idempotent request is finished with that error (or the connection-lost error) -/
theorem unsafe_outcome_is_final (rc : Nat) (o : Outcome) (h : safeToResend o = false) (hs : o ≠ .silent)
    (hok : o ≠ .success) :
    ∃ r p, react false rc o = .finish r p := by
  cases o <;> simp [safeToResend] at h <;> simp [react, Retry.decide] at hs hok ⊢

/-- non-vacuity: a non-idempotent request, unavailable (safe) then write timeout (final) -/
example : let r := run (fun _ _ => false) false [0, 1, 2] [.unavailable, .writeTimeout "WriteTypeBatchLog", .success]
    r.attempts = [0, 1] ∧ r.reply = some (.forwarded 1) := by
  simp [run, go, pick, pickNext, skipDown, react, Retry.decide, Gen.RetryPolicy.onUnavailable]

/-- **retry_gate_shape_ok** — `checkIdempotent`, `OnClose`, `OnResult` and `handleErrorResult` as read off /repo's
current proxy/request.go (logging left out) are the ones Model/Retry.lean models: which outcomes consult the policy
whatever the request, which only for idempotent requests, which never (regenerated on every run) -/
theorem retry_gate_shape_ok : Gen.RetryGateFacts.facts = RetryGateShape.expected := rfl

end CqlVerif.C04
