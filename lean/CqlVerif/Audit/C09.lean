import CqlVerif.Props.C09
#print axioms CqlVerif.C09.non_select_forwarded
#print axioms CqlVerif.C09.use_handled
#print axioms CqlVerif.C09.handled_select_iff
#print axioms CqlVerif.C09.foreign_qualifier_forwarded
