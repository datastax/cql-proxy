/-
Lemmas.Lockset — why obeying a lock discipline orders conflicting accesses.

Executions are traces of lock operations (`sync.Mutex` = write mode only, `sync.RWMutex` = both
modes) and plain memory accesses by goroutines.  `step` admits an acquire only when Go's mutexes
would let it proceed (a write lock needs the lock free, a read lock needs it free of writers, and
a goroutine does not re-acquire a lock it holds).  `ordered_by_unlock_lock`: if a goroutine
accesses a variable while holding a lock, and another goroutine later accesses it while holding
the same lock, at least one of them in write mode, then between the two accesses the first
goroutine released the lock and the second acquired it afterwards — the unlock/lock pair that the
Go memory model turns into a happens-before edge.  With "writes hold the lock in write mode, reads
hold it in either mode" (what `C18.discipline_holds` establishes for the guarded fields) every pair
of conflicting accesses satisfies the premise, so no pair is a data race.
-/
namespace CqlVerif.Lockset

abbrev Thread := Nat
abbrev Lock := Nat
abbrev Var := Nat

inductive Ev where
  | acq (t : Thread) (l : Lock) (w : Bool)     -- Lock (w = true) / RLock (w = false) returns
  | rel (t : Thread) (l : Lock) (w : Bool)     -- Unlock / RUnlock
  | acc (t : Thread) (x : Var) (w : Bool)      -- plain read / write
  deriving Repr, DecidableEq

abbrev Holding := Thread × Lock × Bool
abbrev Held := List Holding

def onLock (l : Lock) (h : Holding) : Bool := h.2.1 == l

def step (H : Held) : Ev → Option Held
  | .acq t l w =>
    if H.any (fun h => onLock l h && (w || h.2.2 || h.1 == t)) then none else some ((t, l, w) :: H)
  | .rel t l w => if H.contains (t, l, w) then some (H.erase (t, l, w)) else none
  | .acc _ _ _ => some H

def steps : Held → List Ev → Option Held
  | H, [] => some H
  | H, e :: es => match step H e with
    | none => none
    | some H' => steps H' es

variable {H H' : Held} {e : Ev} {es : List Ev} {t t' t1 t2 : Thread} {l : Lock} {w m m1 m2 : Bool}

theorem steps_cons : steps H (e :: es) = some H' ↔ ∃ H1, step H e = some H1 ∧ steps H1 es = some H' := by
  rw [steps]; split <;> simp [*]

/-! What a step does to the holdings: a new one comes from its own acquire, which the holdings
already there must admit; an old one goes only by its own release. -/

theorem mem_of_step (hs : step H e = some H') (hx : (t, l, m) ∈ H') : (t, l, m) ∈ H ∨ e = .acq t l m := by
  cases e <;> simp only [step, Option.ite_none_left_eq_some, Option.ite_none_right_eq_some, Option.some.injEq] at hs
  · obtain ⟨_, rfl⟩ := hs
    rcases List.mem_cons.mp hx with h | h
    · cases h; exact .inr rfl
    · exact .inl h
  · obtain ⟨_, rfl⟩ := hs
    exact .inl (List.mem_of_mem_erase hx)
  · exact .inl (hs ▸ hx)

theorem mem_step_of_mem (hs : step H e = some H') (hx : (t, l, m) ∈ H) (he : e ≠ .rel t l m) :
    (t, l, m) ∈ H' := by
  cases e <;> simp only [step, Option.ite_none_left_eq_some, Option.ite_none_right_eq_some, Option.some.injEq] at hs
  · obtain ⟨_, rfl⟩ := hs
    exact List.mem_cons_of_mem _ hx
  · obtain ⟨_, rfl⟩ := hs
    exact (List.mem_erase_of_ne fun h => he (by cases h; rfl)).mpr hx
  · exact hs ▸ hx

theorem acq_admitted (hs : step H (.acq t l w) = some H') (hx : (t', l, m) ∈ H) :
    w = false ∧ m = false ∧ t' ≠ t := by
  simp only [step, Option.ite_none_left_eq_some, List.any_eq_true, not_exists, not_and] at hs
  simpa [onLock, and_assoc] using hs.1 _ hx

/-- what mutual exclusion guarantees about the holdings at any moment: two goroutines hold the
same lock only if both hold it for reading -/
def Inv (H : Held) : Prop :=
  ∀ ⦃t1 t2 l m1 m2⦄, (t1, l, m1) ∈ H → (t2, l, m2) ∈ H → t1 ≠ t2 → m1 = false ∧ m2 = false

theorem Inv.excludes (hi : Inv H) (h1 : (t1, l, m1) ∈ H) (hne : t1 ≠ t2) (hw : m1 = true ∨ m2 = true) :
    (t2, l, m2) ∉ H := fun h2 => by
  have := hi h1 h2 hne
  rcases hw with hw | hw <;> simp_all

theorem step_inv (hi : Inv H) (hs : step H e = some H') : Inv H' := by
  intro t1 t2 l m1 m2 h1 h2 hne
  rcases mem_of_step hs h1 with h1 | rfl <;> rcases mem_of_step hs h2 with h2 | he
  · exact hi h1 h2 hne
  · subst he
    exact ⟨(acq_admitted hs h1).2.1, (acq_admitted hs h1).1⟩
  · exact ⟨(acq_admitted hs h2).1, (acq_admitted hs h2).2.1⟩
  · cases he; exact absurd rfl hne

theorem steps_inv (hi : Inv H) (hs : steps H es = some H') : Inv H' := by
  induction es generalizing H with
  | nil => cases hs; exact hi
  | cons e es ih =>
    obtain ⟨H1, h1, hs⟩ := steps_cons.mp hs
    exact ih (step_inv hi h1) hs

theorem reachable_inv {tr : List Ev} (h : steps [] tr = some H) : Inv H :=
  steps_inv (fun _ _ _ _ _ h => (List.not_mem_nil h).elim) h

theorem must_acquire (hs : steps H es = some H') (hin : (t, l, m) ∈ H') (hnot : (t, l, m) ∉ H) :
    ∃ b c, es = b ++ Ev.acq t l m :: c := by
  induction es generalizing H with
  | nil => cases hs; exact absurd hin hnot
  | cons e es ih =>
    obtain ⟨H1, h1, hs⟩ := steps_cons.mp hs
    by_cases hx : (t, l, m) ∈ H1
    · rcases mem_of_step h1 hx with h | rfl
      · exact absurd h hnot
      · exact ⟨[], es, rfl⟩
    · obtain ⟨b, c, rfl⟩ := ih hs hx
      exact ⟨e :: b, c, rfl⟩

/-- **ordered_by_unlock_lock** — `H` is the set of holdings when goroutine `t1` makes its access
(holding `l` in mode `m1`), `mid` what happens until goroutine `t2` makes its access (holding `l`
in mode `m2`), and at least one of the two modes is the write mode: then `t1` unlocked `l` and,
later, `t2` locked it, in between. -/
theorem ordered_by_unlock_lock {H2 : Held} {mid : List Ev}
    (hi : Inv H) (h1 : (t1, l, m1) ∈ H) (hs : steps H mid = some H2) (h2 : (t2, l, m2) ∈ H2)
    (hne : t1 ≠ t2) (hw : m1 = true ∨ m2 = true) :
    ∃ a b c, mid = a ++ Ev.rel t1 l m1 :: (b ++ Ev.acq t2 l m2 :: c) := by
  induction mid generalizing H with
  | nil => cases hs; exact absurd h2 (hi.excludes h1 hne hw)
  | cons e es ih =>
    obtain ⟨H1, hst, hs⟩ := steps_cons.mp hs
    by_cases he : e = Ev.rel t1 l m1
    · -- t2 does not hold l in H (exclusion), so not in H1 either: it acquires it in `es`
      have hnot1 : (t2, l, m2) ∉ H1 := fun hm => by
        rcases mem_of_step hst hm with hm | h
        · exact hi.excludes h1 hne hw hm
        · rw [he] at h; cases h
      obtain ⟨b, c, rfl⟩ := must_acquire hs h2 hnot1
      exact ⟨[], b, c, by rw [he]; rfl⟩
    · -- t1 still holds l after e
      obtain ⟨a, b, c, rfl⟩ := ih (step_inv hi hst) (mem_step_of_mem hst h1 he) hs
      exact ⟨e :: a, b, c, rfl⟩

/-- non-vacuity: a writer and a reader of the same variable under an RWMutex; the trace is
admitted, and the reader's lock acquisition follows the writer's unlock -/
example : steps [] [.acq 1 7 true, .acc 1 0 true, .rel 1 7 true, .acq 2 7 false, .acc 2 0 false, .rel 2 7 false] = some [] := by decide
/-- … and a trace in which the reader gets the lock while the writer holds it is not an execution -/
example : steps [] [.acq 1 7 true, .acq 2 7 false] = none := by decide

end CqlVerif.Lockset
