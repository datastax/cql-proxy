/-
Lemmas.StrCode — a string equality test the kernel evaluates quickly.

The tables extracted from /repo are lists of strings, and the theorems about them are proved by
kernel evaluation.  `String.decEq` compares two strings byte by byte, and every byte costs the
kernel a chain of unfoldings (`UInt8`, `BitVec`, `Fin`, `Nat`); a table theorem makes thousands of
such comparisons, most of them between names with a long common prefix.  Here a string is turned
into one number (`code`, computed once per string: the kernel remembers what it has reduced) and
two strings are compared by comparing their numbers, which the kernel's arithmetic does in one
step.  All instances of `DecidableEq String` are equal, so a goal that shows the standard one can be
rewritten with `decEq_eq` before it is evaluated; what the evaluation proves is unchanged.
-/
namespace CqlVerif.StrCode

/-- a byte string as a number: little-endian digits 1 … 256 in base 256 -/
def codeL : List UInt8 → Nat
  | [] => 0
  | b :: t => codeL t * 256 + b.toNat + 1

theorem codeL_inj : ∀ {l m : List UInt8}, codeL l = codeL m → l = m
  | [], [], _ => rfl
  | [], _ :: _, h | _ :: _, [], h => by simp [codeL] at h
  | a :: l, b :: m, h => by
    have := a.toNat_lt
    have := b.toNat_lt
    simp only [codeL] at h
    rw [UInt8.toNat_inj.mp (show a.toNat = b.toNat by omega), codeL_inj (l := l) (m := m) (by omega)]

def code (s : String) : Nat := codeL s.toByteArray.data.toList

theorem code_inj {a b : String} : code a = code b ↔ a = b :=
  ⟨fun h => String.toByteArray_inj.mp (ByteArray.ext (Array.ext' (codeL_inj h))), fun h => h ▸ rfl⟩

def decEq : DecidableEq String := fun _ _ => decidable_of_iff _ code_inj

theorem decEq_eq : instDecidableEqString = decEq :=
  funext fun _ => funext fun _ => Subsingleton.elim _ _

end CqlVerif.StrCode
