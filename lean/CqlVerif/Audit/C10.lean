import CqlVerif.Props.C10
#print axioms CqlVerif.C10.mul_tokenStep_le
#print axioms CqlVerif.C10.tokens_ok
#print axioms CqlVerif.C10.mapOpt_eq_some
#print axioms CqlVerif.C10.mapOpt_length
#print axioms CqlVerif.C10.mapOpt_mem
#print axioms CqlVerif.C10.selCols_length
#print axioms CqlVerif.C10.filterColumns_length
#print axioms CqlVerif.C10.row_width
#print axioms CqlVerif.C10.local_one_row
#print axioms CqlVerif.C10.peers_rows
#print axioms CqlVerif.C10.self_not_a_peer
#print axioms CqlVerif.C10.buildNodes_calc
#print axioms CqlVerif.C10.proxies_agree
#print axioms CqlVerif.C10.le32_length
#print axioms CqlVerif.C10.md5_length
#print axioms CqlVerif.C10.stamp_bits
#print axioms CqlVerif.C10.host_id_is_version3_uuid
