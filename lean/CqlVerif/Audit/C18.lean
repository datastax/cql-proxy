import CqlVerif.Props.C18
#print axioms CqlVerif.C18.discipline_holds
#print axioms CqlVerif.C18.guarded_accesses_ordered
