import CqlVerif.Model.Tls
import CqlVerif.Spec.TlsShape
import CqlVerif.Gen.TlsFacts
/-!
# C19 — Astra bundle connections authenticate the server and identify the client
-/
namespace CqlVerif.C19
open CqlVerif.Tls

/-- **tls_shape_ok** — the facts read off /repo's current astra/endpoint.go, astra/bundle.go and
proxycore/conn.go are the ones Model/Tls.lean models (regenerated on every run) -/
theorem tls_shape_ok : Gen.TlsFacts.facts = TlsShape.expected := rfl

/-- a verified path: every certificate valid at `t`, each signed by the next one's key, every
issuer a CA, ending at a trusted root -/
inductive Path (roots inters : List Cert) (t : Int) : Cert → Prop where
  | root (c r : Cert) : c.validAt t = true → r ∈ roots → r.id = c.signer → r.isCA = true → r.validAt t = true → Path roots inters t c
  | step (c i : Cert) : c.validAt t = true → i ∈ inters → i.id = c.signer → i.isCA = true → Path roots inters t i → Path roots inters t c

theorem Path.root_signature {roots inters : List Cert} {t : Int} {c : Cert} (h : Path roots inters t c) :
    ∃ c' ∈ c :: inters, ∃ r ∈ roots, r.id = c'.signer := by
  induction h with
  | root c r _ hr hid _ _ => exact ⟨c, List.mem_cons_self, r, hr, hid⟩
  | step c i _ hi _ _ _ ih =>
    obtain ⟨c', hc', hr⟩ := ih
    exact ⟨c', List.mem_cons_of_mem _ (by rcases List.mem_cons.mp hc' with rfl | h <;> assumption), hr⟩

theorem chainOk_sound {roots inters : List Cert} {t : Int} {fuel : Nat} {c : Cert}
    (h : chainOk roots inters t fuel c = true) : Path roots inters t c := by
  induction fuel generalizing c with
  | zero => simp [chainOk] at h
  | succ n ih =>
    simp only [chainOk, Bool.and_eq_true, Bool.or_eq_true, List.any_eq_true, beq_iff_eq] at h
    obtain ⟨hv, ⟨r, hr, ⟨hid, hca⟩, hrv⟩ | ⟨i, hi, ⟨hid, hca⟩, hrec⟩⟩ := h
    · exact .root c r hv hr hid hca hrv
    · exact .step c i hv hi hid hca (ih hrec)

theorem accept_cons {b : Bundle} {leaf : Cert} {rest : List Cert} {t : Int} (h : accept b (leaf :: rest) t = true) :
    b.host ∈ leaf.names ∧ leaf.validAt t = true ∧ (leaf ∈ b.roots ∨ Path b.roots rest t leaf) := by
  simp only [accept, Bool.and_eq_true, Bool.or_eq_true, List.contains_iff_mem] at h
  obtain ⟨hn, ⟨hr, hv⟩ | hc⟩ := h
  · exact ⟨hn, hv, .inl hr⟩
  · have hp := chainOk_sound hc
    exact ⟨hn, by cases hp <;> assumption, .inr hp⟩

/-- **accept_sound** — for every bundle, every presented chain and every time: a server is
accepted only if its leaf names the bundle's host, and either is itself one of the bundle's roots
(and valid) or is linked to a bundle root by a path of valid CA certificates taken from the chain
it presented -/
theorem accept_sound (b : Bundle) (chain : List Cert) (t : Int) (h : accept b chain t = true) :
    ∃ leaf rest, chain = leaf :: rest ∧ b.host ∈ leaf.names ∧ leaf.validAt t = true ∧
      (leaf ∈ b.roots ∨ Path b.roots rest t leaf) := by
  cases chain with
  | nil => cases h
  | cons leaf rest => exact ⟨leaf, rest, rfl, accept_cons h⟩

theorem reject_empty (b : Bundle) (t : Int) : accept b [] t = false := rfl

/-- **reject_wrong_name** — a leaf that does not name the bundle's host is rejected whatever else
the server sends along (a second certificate with the right name does not help) -/
theorem reject_wrong_name (b : Bundle) (leaf : Cert) (rest : List Cert) (t : Int) (h : b.host ∉ leaf.names) :
    accept b (leaf :: rest) t = false :=
  Bool.eq_false_iff.mpr fun ha => h (accept_cons ha).1

/-- **reject_outside_validity** — expired and not-yet-valid leaves are rejected, judged at the
time of the handshake -/
theorem reject_outside_validity (b : Bundle) (leaf : Cert) (rest : List Cert) (t : Int) (h : leaf.validAt t = false) :
    accept b (leaf :: rest) t = false :=
  Bool.eq_false_iff.mpr fun ha => by simp [(accept_cons ha).2.1] at h

/-- **reject_untrusted** — if no certificate the server presents is signed by a key of one of the
bundle's roots (self-signed, issued under another CA with or without that CA appended, issued by
an intermediate that is missing) and the leaf is not itself a root, the server is rejected -/
theorem reject_untrusted (b : Bundle) (leaf : Cert) (rest : List Cert) (t : Int)
    (hroot : leaf ∉ b.roots) (hsig : ∀ c ∈ leaf :: rest, ∀ r ∈ b.roots, r.id ≠ c.signer) :
    accept b (leaf :: rest) t = false :=
  Bool.eq_false_iff.mpr fun ha => by
    rcases (accept_cons ha).2.2 with hr | hp
    · exact hroot hr
    · obtain ⟨c', hc', r, hr, hid⟩ := hp.root_signature
      exact hsig c' hc' r hr hid

/-- **client_identity** — the proxy names the node (host id or contact point) as SNI on every
attempt, and presents the bundle's client certificate exactly to servers it has accepted -/
theorem client_identity (b : Bundle) (node : Nat) (chain : List Cert) (t : Int) :
    (connectNode b node chain t).sni = node ∧
    ((connectNode b node chain t).presents = some b.clientCert ↔ accept b chain t = true) ∧
    ((connectNode b node chain t).connected = accept b chain t) := by
  unfold connectNode
  cases accept b chain t <;> simp

/-- non-vacuity: a leaf under an intermediate under the bundle's CA is accepted while everything
is valid, and rejected once the intermediate has expired -/
example : accept { roots := [⟨1, 1, [], -10, 100, true⟩], host := 7, clientCert := 9 }
    [⟨10, 20, [7], -10, 100, false⟩, ⟨20, 1, [], -10, 5, true⟩] 0 = true := by decide
example : accept { roots := [⟨1, 1, [], -10, 100, true⟩], host := 7, clientCert := 9 }
    [⟨10, 20, [7], -10, 100, false⟩, ⟨20, 1, [], -10, 5, true⟩] 6 = false := by decide

end CqlVerif.C19
