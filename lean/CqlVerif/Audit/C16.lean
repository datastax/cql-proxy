import CqlVerif.Props.C16
#print axioms CqlVerif.C16.wrap_id
#print axioms CqlVerif.C16.wrap_sum
#print axioms CqlVerif.C16.calcMaxAttempts_pos
#print axioms CqlVerif.C16.nextDelay_configured
#print axioms CqlVerif.C16.nextDelay_bounds
#print axioms CqlVerif.C16.delay_bounds
#print axioms CqlVerif.C16.reset_restarts
#print axioms CqlVerif.C16.zero_base_gives_max
#print axioms CqlVerif.C16.overflow_witness
#print axioms CqlVerif.C16.mem_foldl_erase
#print axioms CqlVerif.C16.mem_adds
#print axioms CqlVerif.C16.mem_removes
#print axioms CqlVerif.C16.applyLB_agrees
#print axioms CqlVerif.C16.mergeHosts_agree
#print axioms CqlVerif.C16.views_agree
#print axioms CqlVerif.C16.refresh_follows_peers
#print axioms CqlVerif.C16.mergeHosts_outage
#print axioms CqlVerif.C16.outage_iff_not_connected
#print axioms CqlVerif.C16.slot_shape_ok
#print axioms CqlVerif.C16.settle_tended
#print axioms CqlVerif.C16.never_abandoned
#print axioms CqlVerif.C16.poolInit_tended
#print axioms CqlVerif.C16.ctlInit_tended
#print axioms CqlVerif.C16.Tended.pending
#print axioms CqlVerif.C16.heals
#print axioms CqlVerif.C16.loss_rearms
#print axioms CqlVerif.C16.backoff_restarts_after_success
#print axioms CqlVerif.C16.react_configured
#print axioms CqlVerif.C16.settle_armed
#print axioms CqlVerif.C16.armed_within_bounds
