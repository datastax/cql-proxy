import CqlVerif.Model.Cluster
import CqlVerif.Model.Slot
import CqlVerif.Spec.SlotShape
import CqlVerif.Gen.SlotFacts
/-!
# C16 — The proxy tracks backend topology and heals lost backend connections
-/
namespace CqlVerif.C16
open CqlVerif.Reconnect

theorem wrap_id (x : Int) (h1 : -two63 ≤ x) (h2 : x < two63) : wrap x = x := by
  unfold wrap two64 two63 at *
  omega

/-- `base + exp + jitter` as Go adds them up: non-negative durations whose sum stays below 2^63 do not wrap -/
theorem wrap_sum (a b c : Int) (h : 0 ≤ a ∧ 0 ≤ b ∧ 0 ≤ c ∧ a + b + c < two63) :
    wrap (wrap (a + wrap b) + wrap c) = a + b + c := by
  rw [wrap_id b, wrap_id c, wrap_id (a + b), wrap_id] <;> simp only [two63] at * <;> omega

theorem calcMaxAttempts_pos {base : Int} (h : 0 < base) : calcMaxAttempts base = Nat.log2 base.toNat := by
  rw [calcMaxAttempts, if_neg (Int.ne_of_gt h), if_neg (Int.lt_asymm h)]

theorem nextDelay_configured {base max : Int} {p : Policy} (j : Int)
    (h : p.base = base ∧ p.max = max ∧ p.maxAttempts = calcMaxAttempts base) :
    (nextDelay p j).2.base = base ∧ (nextDelay p j).2.max = max ∧ (nextDelay p j).2.maxAttempts = calcMaxAttempts base := by
  unfold nextDelay
  split <;> exact h

/-- the bounds of `delay_bounds` for any policy that carries the configuration of `new base max`,
whatever its attempt count (the form in which the `stayConnected` loops need them) -/
theorem nextDelay_bounds {base max : Int} (h0 : 0 < base) (h1 : base ≤ max) (h2 : base < 17592186044416)
    {p : Policy} (hp : p.base = base ∧ p.max = max ∧ p.maxAttempts = calcMaxAttempts base)
    {j : Int} (hj : 85 ≤ j ∧ j < 115) :
    base ≤ (nextDelay p j).1 ∧ (nextDelay p j).1 ≤ max := by
  obtain ⟨rfl, rfl, hm⟩ := hp
  unfold nextDelay
  split
  · exact ⟨h1, Int.le_refl _⟩
  next hlt =>
    -- fewer attempts than `log2 base`: `2 ^ (attempts + 1) ≤ base < 2^44`, so `millisecond << attempts < 10^6 * 2^43 < 2^63`
    rw [hm, calcMaxAttempts_pos h0] at hlt
    have hpow : ((2 ^ (p.attempts + 1) : Nat) : Int) ≤ p.base.toNat :=
      Int.ofNat_le.mpr ((Nat.le_log2 (by omega)).mp (by omega))
    push_cast [Int.pow_succ, Int.toNat_of_nonneg (Int.le_of_lt h0)] at hpow
    have hp0 : (0 : Int) < 2 ^ p.attempts := Int.pow_pos (by decide)
    simp only [wrap_sum p.base (millisecond * 2 ^ p.attempts) (j * millisecond) (by simp only [millisecond, two63]; omega)]
    generalize hd : p.base + millisecond * 2 ^ p.attempts + j * millisecond = d
    have : p.base ≤ d := by simp only [millisecond] at hd; omega
    split <;> omega

/-- **delay_bounds** — for every base/max configuration with `0 < base ≤ max` and `base < 2^44` ns
(≈ 4.9 h), every attempt count and every jitter the library can draw, the delay lies within
`[base, max]`; nothing wraps around. -/
theorem delay_bounds (base max : Int) (h0 : 0 < base) (h1 : base ≤ max) (h2 : base < 17592186044416)
    (hmax : max < two63) (attempts : Nat) (jitterMs : Int) (hj : 85 ≤ jitterMs ∧ jitterMs < 115) :
    let p : Policy := { (new base max) with attempts := attempts }
    base ≤ (nextDelay p jitterMs).1 ∧ (nextDelay p jitterMs).1 ≤ max :=
  nextDelay_bounds h0 h1 h2 ⟨rfl, rfl, rfl⟩ hj

/-- after a success the back-off restarts from the base -/
theorem reset_restarts (p : Policy) : (reset p).attempts = 0 ∧ (reset p).base = p.base ∧ (reset p).max = p.max := ⟨rfl, rfl, rfl⟩

/-- `base ≤ 0` is answered with the maximum (zero) or is outside the property (negative) -/
theorem zero_base_gives_max (max : Int) (attempts : Nat) (j : Int) :
    (nextDelay { (new 0 max) with attempts := attempts } j).1 = max := by
  simp [nextDelay, new, calcMaxAttempts]

/-- the guard is needed: at `base = 2^45` ns (≈ 9.8 h) `time.Millisecond << attempts` overflows
and a *negative* delay comes out (library API only; the binary uses 2 s / 10 min) -/
theorem overflow_witness :
    (nextDelay { (new 35184372088832 9223372036854775807) with attempts := 44 } 100).1 < 0 := by
  decide

/-- non-vacuity: the binary's own configuration, 2 s / 10 min -/
example : (nextDelay (new 2000000000 600000000000) 100).1 = 2101000000 ∧
    (nextDelay { (new 2000000000 600000000000) with attempts := 29 } 100).1 = 600000000000 := by decide

end CqlVerif.C16

namespace CqlVerif.C16
open CqlVerif.Cluster

theorem mem_foldl_erase {r l : List Host} (hl : l.Nodup) :
    (∀ x, x ∈ r.foldl List.erase l ↔ x ∈ l ∧ x ∉ r) ∧ (r.foldl List.erase l).Nodup := by
  induction r generalizing l with
  | nil => simp [hl]
  | cons a t ih => simp [ih (hl.erase a), hl.mem_erase_iff, and_assoc, and_left_comm]

theorem mem_adds {old new : List Host} {x : Host} : x ∈ adds old new ↔ x ∈ new ∧ x ∉ old := by simp [adds]
theorem mem_removes {old new : List Host} {x : Host} : x ∈ removes old new ↔ x ∈ old ∧ x ∉ new := mem_adds

/-- a view (the load balancer's list, the session's pool keys) that agreed with the cluster's
host list before a refresh agrees with it afterwards: same members, no duplicates -/
theorem applyLB_agrees (view old new : List Host) (hv : view.Nodup) (hn : new.Nodup)
    (hagree : ∀ x, x ∈ view ↔ x ∈ old) :
    (applyLB view (adds old new) (removes old new)).Nodup ∧
    ∀ x, x ∈ applyLB view (adds old new) (removes old new) ↔ x ∈ new := by
  have hnd : (view ++ adds old new).Nodup :=
    List.nodup_append.mpr ⟨hv, hn.filter _, fun a ha b hb e => (mem_adds.mp hb).2 ((hagree b).mp (e ▸ ha))⟩
  refine ⟨(mem_foldl_erase hnd).2, fun x => ?_⟩
  rw [applyLB, (mem_foldl_erase hnd).1, List.mem_append, hagree, mem_adds, mem_removes]
  by_cases ho : x ∈ old <;> simp [ho]

structure Agree (s : St) : Prop where
  lbNodup : s.lb.Nodup
  poolsNodup : s.pools.Nodup
  lb : ∀ x, x ∈ s.lb ↔ x ∈ s.hosts
  pools : ∀ x, x ∈ s.pools ↔ x ∈ s.hosts

theorem mergeHosts_agree (s : St) (c : Host) (peers : List Host) (h : Agree s) (hn : peers.Nodup) :
    Agree (mergeHosts s c peers) := by
  unfold mergeHosts
  split
  · exact ⟨h.1, h.2, h.3, h.4⟩
  · have h1 := applyLB_agrees s.lb s.hosts peers h.lbNodup hn h.lb
    have h2 := applyLB_agrees s.pools s.hosts peers h.poolsNodup hn h.pools
    exact ⟨h1.1, h2.1, h1.2, h2.2⟩

/-- **views_agree** — every event (a refresh with any peers table: nodes added, removed, restarted;
the loss of the control connection; a fail-over) preserves the agreement: the hosts eligible for
routing are those of the cluster view - the last peers table read - in the load balancer and the
session's pools alike, without duplicates. -/
theorem views_agree (s : St) (e : Ev) (h : Agree s)
    (hpeers : ∀ c peers, (e = .refresh c peers ∨ e = .controlRestored c peers) → peers.Nodup) :
    Agree (step s e) := by
  cases e with
  | refresh c peers =>
    simp only [step]
    split
    · exact mergeHosts_agree s c peers h (hpeers c peers (.inl rfl))
    · exact h
  | controlLost => exact ⟨h.1, h.2, h.3, h.4⟩
  | controlRestored c peers => exact mergeHosts_agree _ c peers ⟨h.1, h.2, h.3, h.4⟩ (hpeers c peers (.inr rfl))

/-- after a successful refresh the routing view is the peers table just read -/
theorem refresh_follows_peers (s : St) (c : Host) (peers : List Host) (h : Agree s) (hn : peers.Nodup)
    (hc : peers.contains c = true) (hconn : s.connected = true) :
    ∀ x, x ∈ (step s (.refresh c peers)).lb ↔ x ∈ peers := by
  simp only [step, hconn, ↓reduceIte, mergeHosts, hc, Bool.not_true, Bool.false_eq_true]
  exact (applyLB_agrees s.lb s.hosts peers h.lbNodup hn h.lb).2

theorem mergeHosts_outage (s : St) (c : Host) (peers : List Host) (h : outage s = !s.connected) :
    outage (mergeHosts s c peers) = !(mergeHosts s c peers).connected := by
  unfold mergeHosts
  split
  · rfl
  · exact h

/-- **outage_iff_not_connected** — every event preserves: an outage is reported exactly while no control connection
exists -/
theorem outage_iff_not_connected (s : St) (e : Ev) (h : outage s = !s.connected) :
    outage (step s e) = !(step s e).connected := by
  cases e with
  | refresh c peers =>
    simp only [step]
    split
    · exact mergeHosts_outage s c peers h
    · exact h
  | controlLost => rfl
  | controlRestored c peers => exact mergeHosts_outage _ c peers rfl

/-- non-vacuity: a node joins, another leaves -/
example : (step (step { hosts := [0, 1], lb := [0, 1], pools := [0, 1] } (.refresh 0 [0, 1, 2])) (.refresh 0 [0, 2])).lb = [0, 2] := by
  decide

end CqlVerif.C16

namespace CqlVerif.C16
open CqlVerif.Reconnect CqlVerif.Slot

/-- **slot_shape_ok** — the facts read off /repo's current `connPool.stayConnected` and
`Cluster.stayConnected` are the ones Model/Slot.lean models (regenerated on every run) -/
theorem slot_shape_ok : Gen.SlotFacts.facts = SlotShape.expected := rfl

/-- the loop is looking after its connection: it has one, or a connect timer is armed, or it was told to stop -/
def Tended (s : Slot.St) : Prop := s.done = true ∨ s.connected = true ∨ s.pending = true

/-- the private policy clone keeps the configured delays -/
def Configured (base max : Int) (s : Slot.St) : Prop :=
  s.pol.base = base ∧ s.pol.max = max ∧ s.pol.maxAttempts = calcMaxAttempts base

theorem settle_tended {j1 j2 : Int} {s : Slot.St} : Tended (settle j1 j2 s) := by
  unfold settle
  split
  next h => rwa [Bool.or_eq_true, Bool.or_eq_true, or_assoc] at h
  · split <;> exact .inr (.inr rfl)

/-- **never_abandoned** — for every history of lost connections, failed and successful connection
attempts and jitters, the loop of a pool slot and the loop of the control connection are, after
every turn, either connected, or waiting for an armed connect timer, or stopped by the proxy's own
shutdown: a lost connection is never left without a reconnect scheduled. -/
theorem never_abandoned (js : Nat → Int × Int) (s0 : Slot.St) (h0 : Tended s0) (i : Nat) (es : List Slot.Ev) :
    Tended (Slot.run js s0 i es) := by
  induction es generalizing s0 i with
  | nil => exact h0
  | cons e es ih => exact ih _ settle_tended _

theorem poolInit_tended (base max : Int) : Tended (poolInit base max) := Or.inr (Or.inr rfl)
theorem ctlInit_tended (base max : Int) : Tended (ctlInit base max) := Or.inr (Or.inl rfl)

theorem Tended.pending {s : Slot.St} (ht : Tended s) (hd : s.done = false) (hc : s.connected = false) :
    s.pending = true := by
  simpa [Tended, hd, hc] using ht

/-- **heals** — whenever the loop is without a connection (and not stopped), the next connection
attempt that succeeds gives it one, and the back-off starts afresh -/
theorem heals (j1 j2 : Int) (s : Slot.St) (ht : Tended s) (hd : s.done = false) (hc : s.connected = false) :
    (Slot.step j1 j2 s (.timer true)).connected = true ∧ (Slot.step j1 j2 s (.timer true)).pol.attempts = 0 := by
  simp [Slot.step, react, settle, hd, hc, ht.pending hd hc, reset]

theorem loss_rearms (j1 j2 : Int) (s : Slot.St) (hd : s.done = false) (hc : s.connected = true) :
    let t := Slot.step j1 j2 s .closed
    t.connected = false ∧ t.pending = true ∧ t.armed.length = s.armed.length + 1 := by
  cases hdb : s.double <;> simp [Slot.step, react, settle, hd, hc, hdb]

/-- **backoff_restarts_after_success** — the delay armed after a connection that had been
re-established is lost again depends only on the configured delays, not on how many attempts the
previous outage took: it is what a fresh policy yields (the pool's loop draws twice). -/
theorem backoff_restarts_after_success (j1 j2 k1 k2 : Int) (s : Slot.St) (ht : Tended s) (hd : s.done = false)
    (hc : s.connected = false) :
    (Slot.step k1 k2 (Slot.step j1 j2 s (.timer true)) .closed).armed =
      s.armed ++ [if s.double then (nextDelay (nextDelay (reset s.pol) k1).2 k2).1 else (nextDelay (reset s.pol) k1).1] := by
  cases hdb : s.double <;> simp [Slot.step, react, settle, hd, hc, ht.pending hd hc, hdb]

theorem react_configured {base max : Int} {s : Slot.St} (e : Slot.Ev) (h : Configured base max s) :
    Configured base max (react s e) ∧ (react s e).armed = s.armed := by
  -- `react` leaves `pol` alone or resets its attempt count, and never touches `armed`
  cases e <;> rw [react] <;> (repeat' split) <;> exact ⟨h, rfl⟩

theorem settle_armed {base max : Int} (h0 : 0 < base) (h1 : base ≤ max) (h2 : base < 17592186044416)
    {j1 j2 : Int} (hj1 : 85 ≤ j1 ∧ j1 < 115) (hj2 : 85 ≤ j2 ∧ j2 < 115)
    {s : Slot.St} (hcfg : Configured base max s) (harm : ∀ d ∈ s.armed, base ≤ d ∧ d ≤ max) :
    Configured base max (settle j1 j2 s) ∧ ∀ d ∈ (settle j1 j2 s).armed, base ≤ d ∧ d ≤ max := by
  unfold settle
  split
  · exact ⟨hcfg, harm⟩
  · have c1 := nextDelay_configured j1 hcfg
    split
    · exact ⟨nextDelay_configured j2 c1, List.forall_mem_append.mpr
        ⟨harm, List.forall_mem_singleton.mpr (nextDelay_bounds h0 h1 h2 c1 hj2)⟩⟩
    · exact ⟨c1, List.forall_mem_append.mpr
        ⟨harm, List.forall_mem_singleton.mpr (nextDelay_bounds h0 h1 h2 hcfg hj1)⟩⟩

/-- **armed_within_bounds** — every delay a connect timer is ever armed with lies within the
configured `[base, max]` (for the configurations `delay_bounds` covers), whatever the history -/
theorem armed_within_bounds (base max : Int) (h0 : 0 < base) (h1 : base ≤ max) (h2 : base < 17592186044416)
    (hmax : max < two63) (js : Nat → Int × Int)
    (hj : ∀ i, (85 ≤ (js i).1 ∧ (js i).1 < 115) ∧ (85 ≤ (js i).2 ∧ (js i).2 < 115))
    (s0 : Slot.St) (hcfg : Configured base max s0) (harm : ∀ d ∈ s0.armed, base ≤ d ∧ d ≤ max) (i : Nat) (es : List Slot.Ev) :
    ∀ d ∈ (Slot.run js s0 i es).armed, base ≤ d ∧ d ≤ max := by
  induction es generalizing s0 i with
  | nil => exact harm
  | cons e es ih =>
    have ⟨hc, ha⟩ := react_configured e hcfg
    have ⟨hc', ha'⟩ := settle_armed h0 h1 h2 (hj i).1 (hj i).2 hc (ha ▸ harm)
    exact ih _ hc' ha' _

/-- non-vacuity: a pool slot (1 ms / 3 s): connected, lost, two failed attempts, success, lost again -
the timers were armed with the 2nd, 4th, 6th delay of the sequence and, after the success, the 2nd again -/
example :
    (Slot.run (fun _ => (100, 100)) (poolInit 1000000 3000000000) 0
      [.timer true, .closed, .timer false, .timer false, .timer true, .closed]).armed
      = [103000000, 109000000, 133000000, 103000000] := by decide
/-- … and the control connection's loop steps through every delay -/
example :
    (Slot.run (fun _ => (100, 100)) (ctlInit 1000000 3000000000) 0
      [.closed, .timer false, .timer false, .timer true, .closed]).armed
      = [102000000, 103000000, 105000000, 102000000] := by decide

end CqlVerif.C16
