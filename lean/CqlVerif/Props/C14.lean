import CqlVerif.Model.Events
import CqlVerif.Model.Handshake
/-!
# C14 — Schema-change events reach every registered client exactly once, and only those
-/
namespace CqlVerif.C14
open CqlVerif.Events

structure Inv (s : St) : Prop where
  regNodup : s.registered.Nodup
  regSub : ∀ c ∈ s.registered, c ∈ s.connected

theorem step_inv (s : St) (a : Act) (h : Inv s) : Inv (step s a) := by
  cases a with
  | connect c =>
    simp only [step]
    split
    · exact h
    · exact ⟨h.regNodup, fun x hx => List.mem_cons_of_mem _ (h.regSub x hx)⟩
  | register c types =>
    simp only [step]
    split
    next hc =>
      exact ⟨List.nodup_cons.mpr ⟨by simpa using hc.2.2, h.regNodup⟩,
        List.forall_mem_cons.mpr ⟨by simpa using hc.1, h.regSub⟩⟩
    · exact h
  | disconnect c =>
    refine ⟨h.regNodup.erase c, fun x hx => ?_⟩
    obtain ⟨hne, hx⟩ := h.regNodup.mem_erase_iff.mp hx
    exact (List.mem_erase_of_ne hne).mpr (h.regSub x hx)
  | backendEvent id t => cases t <;> exact ⟨h.regNodup, h.regSub⟩
  | controlFailover => exact h

theorem reachable_inv (as : List Act) : Inv (run as) :=
  List.foldlRecOn as step ⟨.nil, by simp⟩ fun s h a _ => step_inv s a h

/-- **registry_inv** — in every reachable state the registry holds each client at most once and
only connected clients -/
theorem registry_inv (as : List Act) : (run as).registered.Nodup ∧ ∀ c ∈ (run as).registered, c ∈ (run as).connected :=
  ⟨(reachable_inv as).regNodup, (reachable_inv as).regSub⟩

/-- **fanout_exact** — a schema-change event is written exactly once to every registered (hence
connected) client and to nobody else, after any history -/
theorem fanout_exact (as : List Act) (id : Nat) :
    let s := run as
    let s' := step s (.backendEvent id .schema)
    ∃ extra, s'.delivered = s.delivered ++ extra ∧ extra.Nodup ∧
      (∀ c, (c, id) ∈ extra ↔ c ∈ s.registered) ∧ ∀ e ∈ extra, e.2 = id := by
  refine ⟨(run as).registered.reverse.map (fun c => (c, id)), rfl, ?_, by simp, by simp⟩
  simpa [List.Nodup, List.pairwise_map, List.pairwise_reverse, eq_comm] using (reachable_inv as).regNodup

/-- **no_topology_forward** — topology and status events are never forwarded -/
theorem no_topology_forward (s : St) (id : Nat) (t : EvType) (ht : t ≠ .schema) :
    (step s (.backendEvent id t)).delivered = s.delivered := by
  cases t <;> simp_all [step]

/-- **disconnect_isolated** — a disconnecting client stops being a target and nobody else is touched -/
theorem disconnect_isolated (as : List Act) (c : Client) :
    let s := step (run as) (.disconnect c)
    c ∉ s.registered ∧ ∀ d, d ≠ c → (d ∈ s.registered ↔ d ∈ (run as).registered) :=
  ⟨fun hm => ((reachable_inv as).regNodup.mem_erase_iff.mp hm).1 rfl, fun _ hd => List.mem_erase_of_ne hd⟩

/-- a REGISTER that does not name SCHEMA_CHANGE registers nothing -/
theorem register_other_types (s : St) (c : Client) (types : List EvType) (h : types.contains .schema = false) :
    step s (.register c types) = s := by
  have h' : EvType.schema ∉ types := by simpa using h
  simp [step, h']

/-- non-vacuity: the first event reaches client 0 only (client 1 registered for other types), the topology event
nobody, the last one client 2 only (client 0 has gone) -/
example : (run [.connect 0, .connect 1, .connect 2, .register 0 [.schema], .register 1 [.topology, .status],
    .backendEvent 1 .schema, .backendEvent 9 .topology, .register 2 [.status, .schema], .disconnect 0,
    .backendEvent 2 .schema]).delivered = [(0, 1), (2, 2)] := by decide

/-- the hand-over's invariant, for a channel of capacity `cap`: the loop's frames followed by the
channel's are the events the reader has accepted, and the channel is within its capacity -/
structure QInv (cap : Nat) (s : EvQ) : Prop where
  cap_eq : s.cap = cap
  conserve : s.handled ++ s.queue = s.emitted.take s.accepted
  accepted_le : s.accepted ≤ s.emitted.length
  bounded : s.queue.length ≤ cap

theorem qstep_inv {cap : Nat} (s : EvQ) (a : QAct) (h : QInv cap s) : QInv cap (qstep s a) := by
  have ⟨h0, h1, h2, h3⟩ := h
  cases a with
  | emit id => exact ⟨h0, by simpa [qstep, List.take_append_of_le_length h2] using h1, by simp [qstep]; omega, h3⟩
  | put =>
    simp only [qstep]
    split
    · exact h
    next e he =>
      split
      next hlt =>
        have hacc := (List.getElem?_eq_some_iff.mp he).1
        exact ⟨h0, by simp [List.take_add_one, he, ← h1], hacc, by simp; omega⟩
      · exact h
  | get =>
    simp only [qstep]
    split
    · exact h
    next e rest hq =>
      rw [hq] at h1 h3
      exact ⟨h0, by simpa using h1, h2, by simp at h3 ⊢; omega⟩

/-- **hand_over_conserves** — whatever the interleaving of the backend emitting events, the control
connection's reader handing them over and the event loop taking them, and however small the
channel: what the loop has handled followed by what waits in the channel is exactly the events read
so far, in the order the backend emitted them — a full channel delays, it never drops or reorders -/
theorem hand_over_conserves (cap : Nat) (as : List QAct) :
    (qrun cap as).handled ++ (qrun cap as).queue = (qrun cap as).emitted.take (qrun cap as).accepted ∧
    (qrun cap as).accepted ≤ (qrun cap as).emitted.length ∧ (qrun cap as).queue.length ≤ max cap 0 := by
  have h : QInv cap (qrun cap as) :=
    List.foldlRecOn as qstep ⟨rfl, rfl, Nat.le_refl _, Nat.zero_le _⟩ fun s h a _ => qstep_inv s a h
  exact ⟨h.conserve, h.accepted_le, by simpa using h.bounded⟩

/-- non-vacuity: a channel of capacity 1, three events, the loop slow: all three come out, in order -/
example : (qrun 1 [.emit 1, .emit 2, .emit 3, .put, .put, .put, .get, .put, .get, .put, .get]).handled = [1, 2, 3] := by decide

end CqlVerif.C14

namespace CqlVerif.C14
open CqlVerif.Handshake

/-- a successful outcome came with REGISTER as the last frame sent -/
def EndsRegistered (r : List Sent × Outcome) : Prop := ∀ v, r.2 = .ok v → r.1.getLast? = some .register

/-- what a step of the handshake that starts with `sent` already sent guarantees: with an event
handler a successful outcome has REGISTER last, without one REGISTER is not among the frames added -/
def Registers (handler : Bool) (sent : List Sent) (r : List Sent × Outcome) : Prop :=
  if handler then EndsRegistered r else Sent.register ∉ sent → Sent.register ∉ r.1

theorem Registers.stop {handler : Bool} {sent : List Sent} {o : Outcome} (h : ∀ v, o ≠ .ok v) :
    Registers handler sent (sent, o) := by
  cases handler
  · exact id
  · exact fun v hv => absurd hv (h v)

theorem Registers.after {handler : Bool} {sent : List Sent} (x : Sent) {r : List Sent × Outcome} (hx : x ≠ .register)
    (h : Registers handler (sent ++ [x]) r) : Registers handler sent r := by
  cases handler
  · exact fun hs => h (by simp [hs, hx.symm])
  · exact h

theorem finish_registers (v : Nat) (handler : Bool) (sent : List Sent) (rest : List Srv) :
    Registers handler sent (finish v handler sent rest) := by
  cases handler
  · exact id
  · intro w _
    cases rest with
    | nil => simp [finish, register]
    | cons h t => cases h <;> simp [finish, register]

theorem challenge_registers (v : Nat) (handler : Bool) (sent : List Sent) (ps : Bool) (rest : List Srv) :
    Registers handler sent (challenge v handler sent ps rest) := by
  unfold challenge
  cases ps
  · exact .stop (by simp)
  · refine .after (.authResponse false) (by simp) ?_
    cases rest with
    | nil => exact .stop (by simp)
    | cons h t => cases h <;> first | exact .stop (by simp) | exact finish_registers ..

theorem initialResponse_registers (v : Nat) (handler : Bool) (sent : List Sent) (dse : Bool) (rest : List Srv) :
    Registers handler sent (initialResponse v handler sent dse rest) := by
  unfold initialResponse
  refine .after (.authResponse dse) (by simp) ?_
  cases rest with
  | nil => exact .stop (by simp)
  | cons h t =>
    cases h with
    | authChallenge ps => exact challenge_registers ..
    | authSuccess => exact finish_registers ..
    | _ => exact .stop (by simp)

theorem startup_registers (fuel v : Nat) (handler hasAuth : Bool) (sent : List Sent) (srv : List Srv) :
    Registers handler sent (startup fuel v handler hasAuth sent srv) := by
  induction fuel generalizing v sent srv with
  | zero => exact .stop (by simp)
  | succ n ih =>
    unfold startup
    refine .after (.startup v) (by simp) ?_
    cases srv with
    | nil => exact .stop (by simp)
    | cons h t =>
      cases h with
      | ready => exact finish_registers ..
      | authenticate dse =>
        cases hasAuth
        · exact .stop (by simp)
        · exact initialResponse_registers ..
      | versionError =>
        cases hs : stepDown v with
        | none => exact .stop (by simp)
        | some v' => exact ih ..
      | _ => exact .stop (by simp)

/-- **control_handshake_registers** — for every server script (READY at once, any authenticator,
with or without a challenge round trip, any number of version refusals first, errors, silence) and
every wanted version: if the handshake of a connection that has an event handler succeeds, the last
frame the proxy sent on it is REGISTER - there is no way through the handshake that skips it -/
theorem control_handshake_registers (version : Nat) (hasAuth : Bool) (srv : List Srv) :
    EndsRegistered (handshake version true hasAuth srv) := startup_registers 6 version true hasAuth [] srv

/-- non-vacuity: DSE authentication with a challenge, after two version refusals; and a pooled
connection (no handler) never registers -/
example : handshake 66 true true [.versionError, .versionError, .authenticate true, .authChallenge true, .authSuccess, .ready]
    = ([.startup 66, .startup 65, .startup 4, .authResponse true, .authResponse false, .register], .ok 4) := by decide
example : handshake 4 false true [.authenticate false, .authSuccess] = ([.startup 4, .authResponse false], .ok 4) := by decide

/-- **pooled_handshake_never_registers** — a connection without an event handler (every pooled
connection) never sends REGISTER, whatever the server does -/
theorem pooled_handshake_never_registers (version : Nat) (hasAuth : Bool) (srv : List Srv) :
    Sent.register ∉ (handshake version false hasAuth srv).1 :=
  startup_registers 6 version false hasAuth [] srv (by simp)

/-- stepping down from a version refused by the server never goes below v2 -/
theorem stepDown_floor (v w : Nat) (h : stepDown v = some w) (hv : 2 ≤ v) : 2 ≤ w := by
  unfold stepDown at h
  split at h <;> cases h
  · omega
  · omega
  next h2 => have : v ≠ 2 := h2; omega

end CqlVerif.C14
