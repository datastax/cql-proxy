import CqlVerif.Model.PartialCodec
/-
Lemmas.Codec — the wire primitives invert each other: what a writer produces the reader reads back
(`write_read*`, for values in range), and what a reader accepted the writer reproduces (`read*_write`,
for byte strings). `write*_digits` is the arithmetic of the second direction, which the frame header
(C03) shares.
-/
namespace CqlVerif.Wire

theorem isBytes_cons {a : Nat} {bs : Bytes} : IsBytes (a :: bs) ↔ a < 256 ∧ IsBytes bs := List.forall_mem_cons

theorem isBytes_append {x y : Bytes} : IsBytes (x ++ y) ↔ IsBytes x ∧ IsBytes y := List.forall_mem_append

theorem isBytes_suffix {x r bs : Bytes} (e : x ++ r = bs) (hb : IsBytes bs) : IsBytes r :=
  (isBytes_append.mp (e ▸ hb)).2

theorem isBytes_tail {a : Nat} {bs : Bytes} (h : IsBytes (a :: bs)) : IsBytes bs := (isBytes_cons.mp h).2

theorem writeShort_digits {a b : Nat} (ha : a < 256) (hb : b < 256) : writeShort (a * 256 + b) = [a, b] := by
  simp only [writeShort, List.cons.injEq, and_true]; omega

theorem writeInt_digits {a b c d : Nat} (ha : a < 256) (hb : b < 256) (hc : c < 256) (hd : d < 256) :
    writeInt (a * 16777216 + b * 65536 + c * 256 + d) = [a, b, c, d] := by
  simp only [writeInt, List.cons.injEq, and_true]; omega

theorem readShort_write {bs r : Bytes} {n : Nat} (h : readShort bs = some (n, r)) (hb : IsBytes bs) :
    writeShort n ++ r = bs := by
  match bs, h with
  | a :: b :: _, h =>
    cases h
    simp only [isBytes_cons] at hb
    rw [writeShort_digits hb.1 hb.2.1]; rfl

theorem write_readShort {n : Nat} {r : Bytes} (h : n < 65536) : readShort (writeShort n ++ r) = some (n, r) := by
  simp [writeShort, readShort]; omega

theorem write_readInt {n : Nat} {r : Bytes} (h : n < 2147483648) : readInt (writeInt n ++ r) = some ((n : Int), r) := by
  have : n / 16777216 % 256 * 16777216 + n / 65536 % 256 * 65536 + n / 256 % 256 * 256 + n % 256 = n := by omega
  simp [writeInt, readInt, this, h]

theorem readInt_write (bs : Bytes) (l : Int) (r : Bytes) (h : readInt bs = some (l, r)) (hb : IsBytes bs) (hl : 0 ≤ l) :
    writeInt l.toNat ++ r = bs := by
  match bs, h with
  | a :: b :: c :: d :: _, h =>
    cases h
    simp only [isBytes_cons] at hb
    split at hl
    next hu => rw [if_pos hu, Int.toNat_natCast, writeInt_digits hb.1 hb.2.1 hb.2.2.1 hb.2.2.2.1]; rfl
    · omega

theorem takeN_spec {n : Nat} {bs x r : Bytes} (h : takeN n bs = some (x, r)) : x ++ r = bs ∧ x.length = n := by
  unfold takeN at h
  split at h <;> cases h
  exact ⟨List.take_append_drop n bs, List.length_take_of_le ‹_›⟩

theorem takeN_append (x r : Bytes) : takeN x.length (x ++ r) = some (x, r) := by
  simp [takeN]

theorem write_readLongString {s : Bytes} {r : Bytes} (h : s.length < 2147483648) :
    readLongString (writeLongString s ++ r) = some (s, r) := by
  unfold readLongString writeLongString
  rw [List.append_assoc, write_readInt h]
  cases s with
  | nil => rfl
  | cons a t => dsimp only; rw [if_neg (by simp), Int.toNat_natCast]; exact takeN_append _ r

theorem write_readShortBytes {x : Bytes} {r : Bytes} (h : x.length < 65536) :
    readShortBytes (writeShortBytes x ++ r) = some (x, r) := by
  unfold readShortBytes writeShortBytes
  rw [List.append_assoc, write_readShort h]
  exact takeN_append x r

theorem readShortBytes_write {bs x r : Bytes} (h : readShortBytes bs = some (x, r)) (hb : IsBytes bs) :
    writeShortBytes x ++ r = bs := by
  unfold readShortBytes at h
  split at h
  · cases h
  next l r' hs =>
    obtain ⟨rfl, rfl⟩ := takeN_spec h
    rw [← readShort_write hs hb, writeShortBytes, List.append_assoc]

end CqlVerif.Wire
