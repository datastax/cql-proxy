import CqlVerif.Lemmas.Retry
/-!
# C05 — Retries follow the documented policy, terminate, and fail over to healthy hosts

Model: `Model/Retry.lean` (`go`/`run`), whose decisions are the *generated* `Gen.RetryPolicy`
functions (translated from proxy/retrypolicy.go on every run). Tie: the `retry` stream drives the
real proxy end-to-end against scripted backends and compares attempts and reply with `run`.
-/
namespace CqlVerif.C05
open CqlVerif.Retry CqlVerif.RetrySpec CqlVerif.Gen.RetryPolicy

/-- the generated policy is the documented one — for every retry count and every field value -/
theorem policy_closed_form (idem : Bool) (rc : Nat) (o : Outcome) :
    Retry.decide idem rc o = docDecision idem rc o := decide_eq_doc idem rc o

theorem onReadTimeout_iff (received blockFor : Int) (dataPresent : Bool) (rc : Nat) :
    onReadTimeout received blockFor dataPresent rc = .retrySame ↔ rc = 0 ∧ received ≥ blockFor ∧ dataPresent = false := by
  rw [show onReadTimeout received blockFor dataPresent rc = _ from policy_closed_form true rc (.readTimeout received blockFor dataPresent)]
  simp [docDecision]

theorem onWriteTimeout_iff (writeType : String) (rc : Nat) :
    onWriteTimeout writeType rc = .retrySame ↔ rc = 0 ∧ writeType = "WriteTypeBatchLog" := by
  rw [show onWriteTimeout writeType rc = _ from policy_closed_form true rc (.writeTimeout writeType)]
  simp [docDecision]

theorem onUnavailable_iff (rc : Nat) : onUnavailable rc = .retryNext ↔ rc = 0 := by
  rw [show onUnavailable rc = _ from policy_closed_form true rc .unavailable]
  simp [docDecision]

theorem onErrorResponse_iff (code : String) (rc : Nat) :
    onErrorResponse code rc = .retryNext ↔ code ≠ "ErrorCodeReadFailure" ∧ code ≠ "ErrorCodeWriteFailure" := by
  rw [show onErrorResponse code rc = _ from policy_closed_form true rc (.errResp code)]
  simp [docDecision]

/-- **attempts_bounded** — for every outcome script, plan, idempotency class and every way hosts
go down between attempts: the number of attempts is at most the number of hosts plus one, plus
one per re-execution after a successful re-prepare (which the code does not count as a retry). -/
theorem attempts_bounded (down : Nat → Host → Bool) (idem : Bool) (plan : List Host) (script : List Outcome) :
    (run down idem plan script).attempts.length ≤ plan.length + 1 + countReprepOk script := by
  simpa [run] using go_attempts_bounded down script .next { plan := plan, idem := idem }

/-- the bound the property states, for scripts without UNPREPARED -/
theorem attempts_bounded_plain (down : Nat → Host → Bool) (idem : Bool) (plan : List Host) (script : List Outcome)
    (h : countReprepOk script = 0) :
    (run down idem plan script).attempts.length ≤ plan.length + 1 := by
  have := attempts_bounded down idem plan script; omega

/-- **failover_success** — an idempotent request succeeds whenever a host of its plan answers
successfully after any number of next-host-class failures (connection loss, bootstrapping,
server/overloaded/truncate errors, failed re-prepare), hosts that are down being skipped. -/
theorem failover_success (down : Host → Bool) (plan : List Host) (pre rest : List Outcome)
    (hpre : ∀ o ∈ pre, nextHostClass o = true) (hup : pre.length < upCount down plan) :
    (run (fun _ => down) true plan (pre ++ .success :: rest)).reply = some (.result pre.length) := by
  simpa [run] using go_failover_success down pre rest { plan := plan, idem := true } rfl rfl hpre hup

/-- **terminates** — a request cannot stay unanswered: for every way hosts go down between
attempts, once `plan + 1` outcomes (+ one per re-execution after a re-prepare) have arrived, none
of them "silent", the request is done. (The defect recorded as repaired in known_findings.json - the
same-host resend looping forever when its Send failed - was a violation of this.) -/
theorem terminates (down : Nat → Host → Bool) (idem : Bool) (plan : List Host) (script : List Outcome)
    (hns : noSilent script = true) (hlen : plan.length + 1 + countReprepOk script ≤ script.length) :
    (run down idem plan script).done = true :=
  go_terminates down script .next _ hns (by simpa using hlen)

/-- the once-failing schedule: read timeout retried on the same host while that host has been
removed in between — the request now moves on to the next host and is answered -/
theorem samehost_removed_moves_on :
    let r := run (fun n h => n = 1 ∧ h = 0) true [0, 1] [.readTimeout 2 2 false, .success]
    r.attempts = [0, 1] ∧ r.reply = some (.result 1) := by
  simp [run, go, pick, pickNext, skipDown, react, Retry.decide, onReadTimeout]

/-- non-vacuity: three hosts, the middle one down, overloaded then connection loss then success -/
example : (run (fun _ h => h = 1) true [0, 1, 2, 3] [.errResp "ErrorCodeOverloaded", .connLost, .success]).attempts = [0, 2, 3] := by
  simp [run, go, pick, pickNext, skipDown, react, Retry.decide, onErrorResponse]

end CqlVerif.C05
