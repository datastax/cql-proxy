import CqlVerif.Lemmas.GrammarCursor
/-
Lemmas.Grammar — the mirrored term parser against the term grammar: `term_sound` (verdict "idempotent" ⇒ the term's
tokens were read and hold no non-deterministic call) and, for plain terms, `term_complete` (fuel for the term ⇒ verdict
"idempotent").  Each function of the parser gets its unfolding on the tokens it meets as an equation (`pt_*`, `*_step`,
`curly_*`, `paren_plain`, `func_eq`; `paren_astray` and `paren_cast` say what the cast branch does to the verdict), each
loop a lemma `*_enter` by induction over the sequence it reads, which ends with the loop's result as an equation; the
loops that plain terms go through (`terms_enter`, `pairs_enter`) serve both directions (`TermSound.step`).
-/
namespace CqlVerif.Ast
open CqlVerif.Parser CqlVerif.Gen.Lex

/-- the first token of `t.render rest` (`render_head`) -/
def Term.head : Term → Tok
  | .int => k tkInteger
  | .prim p => k p.kind
  | .bindQ => k tkQMark
  | .bindNamed _ => k tkColon
  | .list _ => k tkLsquare
  | .set _ | .map _ | .udt _ => k tkLcurly
  | .tuple _ | .cast _ _ _ => k tkLparen
  | .call none name _ => idt name
  | .call (some q) _ _ => idt q

theorem render_head (t : Term) (rest : List Tok) : ∃ tl, t.render rest = t.head :: tl := by
  cases t <;> simp [Term.render, Term.head]
  case call ks name args => cases ks <;> simp [renderName]

variable {L : Lexer} {s : LS} {a b : Tok} {tl toks rest : List Tok} {p n fuel : Nat} {t : Term}

theorem At.read_term (h : At L s.p (t.render rest)) : nextT L s = (t.head.kind, s.adv t.head) := by
  obtain ⟨tl, e⟩ := render_head t rest
  exact (e ▸ h).read

theorem enter_term {β : Type} {loop : Nat → LS → Nat → β} (h : At L s.p (t.render rest)) :
    enter L loop fuel s = loop fuel (s.adv t.head) t.head.kind := by
  simp only [enter, h.read_term]

/-- the kinds a rendered term can begin with (`head_start`); none closes a sequence or is the end of the input, which is
all the loops' entry test `t ≠ close ∧ t ≠ tkEOF` needs (`ne_of_test`) -/
def isTermStart (n : Nat) : Bool :=
  n = tkInteger || n = tkFloat || n = tkBool || n = tkNull || n = tkStringLiteral || n = tkHexNumber || n = tkUuid ||
  n = tkDuration || n = tkNan || n = tkInfinity || n = tkColon || n = tkQMark || n = tkLsquare || n = tkLcurly ||
  n = tkLparen || n = tkIdentifier

theorem head_start (t : Term) : isTermStart t.head.kind = true := by
  cases t with
  | prim p => cases p <;> rfl
  | call ks name args => cases ks <;> rfl
  | _ => rfl

theorem head_colon (v : Term) (h : v.head.kind = tkColon) : ∃ nm, v = .bindNamed nm := by
  cases v with
  | bindNamed nm => exact ⟨nm, rfl⟩
  | prim p => cases p <;> exact absurd h (by decide)
  | call ks name args => cases ks <;> (simp only [Term.head] at h; exact absurd h (by decide))
  | _ => simp only [Term.head] at h; exact absurd h (by decide)

theorem head_ident (h : t.head.kind = tkIdentifier) : ∃ ks name args, t = .call ks name args := by
  cases t with
  | call ks name args => exact ⟨_, _, _, rfl⟩
  | prim p => cases p <;> exact absurd h (by decide)
  | _ => simp only [Term.head] at h; exact absurd h (by decide)

theorem second_kind (hA : At L s.p (t.render rest)) (h : t.head.kind = tkIdentifier) :
    (nextT L (s.adv t.head)).1 = tkLparen ∨ (nextT L (s.adv t.head)).1 = tkDot := by
  obtain ⟨ks, name, args, rfl⟩ := head_ident h
  cases ks with
  | none => exact Or.inl (congrArg Prod.fst (At.next (a := idt name) hA).read)
  | some q => exact Or.inr (congrArg Prod.fst (At.next (a := idt q) hA).read)

theorem head_call (ks : Option Ident) (name : Ident) (args : Args) : (Term.call ks name args).head = nameHead ks name := by
  cases ks <;> rfl

/-- the parser, having just consumed the first token of `t`'s rendering in any context, either answers "not
idempotent" or ends exactly behind `t`'s last token, and then `t` contains no `now()` / `uuid()` call -/
def TermSound (t : Term) : Prop := ∀ (L : Lexer) (fuel : Nat) (s : LS) (p : Nat) (rest : List Tok),
  At L p (t.render rest) → Fed s p t.head → (parseTerm L fuel s t.head.kind).1.idem = true →
  At L (parseTerm L fuel s t.head.kind).2.2.p rest ∧ t.nonIdem = false

/-- with fuel for its size the parser reads the whole term, reports no error and answers "idempotent" -/
def Complete (t : Term) : Prop := ∀ (L : Lexer) (fuel : Nat) (s : LS) (p : Nat) (rest : List Tok),
  t.size ≤ fuel → At L p (t.render rest) → Fed s p t.head →
  (parseTerm L fuel s t.head.kind).1 = { idem := true } ∧ At L (parseTerm L fuel s t.head.kind).2.2.p rest

/-- a caller that hands on `parseTerm`'s verdict on `t` goes on, with what `parseTerm` returned, from behind `t`'s last
token - seen from either side: the caller's verdict is "idempotent", or the term is known to be read to its end and
there is fuel for it.  The loops over terms take this pair of alternatives as their hypothesis, so that one induction
over the sequence serves both directions. -/
theorem TermSound.step {γ : Type} {x : TermType × LS → γ} {g : TermType × LS → R × γ} (h : TermSound t)
    (hA : At L p (t.render rest)) (hF : Fed s p t.head)
    (hi : (andThen (parseTerm L fuel s t.head.kind) x g).1.idem = true ∨ Complete t ∧ t.size ≤ fuel) :
    t.nonIdem = false ∧ ∃ q, andThen (parseTerm L fuel s t.head.kind) x g = g q ∧ At L q.2.p rest :=
  have hr : (parseTerm L fuel s t.head.kind).1.idem = true :=
    hi.elim (fun hi => (andThen_idem hi).1) fun hc => by rw [(hc.1 L fuel s p rest hc.2 hA hF).1]
  have ⟨hA', hn⟩ := h L fuel s p rest hA hF hr
  ⟨hn, _, andThen_ok hr, hA'⟩

def Terms.All (P : Term → Prop) : Terms → Prop
  | .nil => True
  | .cons t ts => P t ∧ ts.All P
def Pairs.All (P : Term → Prop) : Pairs → Prop
  | .nil => True
  | .cons a b ps => P a ∧ P b ∧ ps.All P
def Fields.All (P : Term → Prop) : Fields → Prop
  | .nil => True
  | .cons _ v fs => P v ∧ fs.All P
def Args.All (P : Term → Prop) : Args → Prop
  | .nil => True
  | .term t as => P t ∧ as.All P
  | .col _ as => as.All P

def Pairs.AllC : Pairs → Prop
  | .nil => True
  | .cons a b ps => Complete a ∧ Complete b ∧ ps.AllC

theorem pt_pos {u : Nat} (hi : (parseTerm L fuel s u).1.idem = true) : ∃ n, fuel = n + 1 :=
  Nat.exists_eq_succ_of_ne_zero fun h => by simp [h, parseTerm, R.fuel] at hi

theorem curly_pos (hi : (termCurly L fuel s).1.idem = true) : ∃ n, fuel = n + 1 :=
  Nat.exists_eq_succ_of_ne_zero fun h => by simp [h, termCurly, R.fuel] at hi

theorem paren_pos (hi : (termParen L fuel s).1.idem = true) : ∃ n, fuel = n + 1 :=
  Nat.exists_eq_succ_of_ne_zero fun h => by simp [h, termParen, R.fuel] at hi

theorem func_pos (hi : (termFunc L fuel s).1.idem = true) : ∃ n, fuel = n + 1 :=
  Nat.exists_eq_succ_of_ne_zero fun h => by simp [h, termFunc, R.fuel] at hi

theorem pt_int : parseTerm L (n+1) s tkInteger = ({ idem := true }, .integerLiteral, s) := by rw [parseTerm]; rfl
theorem pt_prim (q : Prim) : parseTerm L (n+1) s q.kind = ({ idem := true }, .primitiveLiteral, s) := by
  cases q <;> (rw [parseTerm]; rfl)
theorem pt_q : parseTerm L (n+1) s tkQMark = ({ idem := true }, .bindMarker, s) := by rw [parseTerm]; rfl
theorem pt_colon {x : Ident} (hA : At L s.p (idt x :: tl)) :
    parseTerm L (n+1) s tkColon = ({ idem := true }, .bindMarker, s.adv (idt x)) := by
  rw [parseTerm]; simp (decide := true) only [hA.read, ↓reduceIte]
theorem pt_lsquare : parseTerm L (n+1) s tkLsquare = enter L (parseListLoop L) n s := by rw [parseTerm]; rfl
theorem pt_lcurly : parseTerm L (n+1) s tkLcurly = termCurly L n s := by rw [parseTerm]; rfl
theorem pt_lparen : parseTerm L (n+1) s tkLparen = termParen L n s := by rw [parseTerm]; rfl
theorem pt_ident : parseTerm L (n+1) s tkIdentifier = termFunc L n s := by rw [parseTerm]; rfl

/-- what the four loops over a plain sequence of terms have in common: one round, entered with the first token `t` of
an element consumed, is `parseTerm` and then `contOf`, unless (in the `{ … }` loop) a colon follows the term; on the
closing token the loop ends with `y` for the second component of its result.  (`x`, the rest of the result when the
term's verdict is not "idempotent", and `z`, what happens behind a colon, differ from loop to loop and do not matter.) -/
structure TermsLoop (L : Lexer) {α : Type} (loop : Nat → LS → Nat → R × α × LS) (close : Nat) (y : α) : Prop where
  close_ne : close ≠ tkComma ∧ isTermStart close = false
  zero : ∀ s t, (loop 0 s t).1.idem = false
  stop : ∀ n s, loop (n+1) s close = ({ idem := true }, y, s)
  step : ∀ n s t, isTermStart t = true → ∃ (x : TermType × LS → α × LS) (z : TermType × LS → R × α × LS), loop (n+1) s t =
    andThen (parseTerm L n s t) x fun q => if (nextT L q.2).1 = tkColon then z q else contOf L loop tkComma n q.2

theorem listLoop_is (L : Lexer) : TermsLoop L (parseListLoop L) tkRsquare .listLiteral where
  close_ne := by decide
  zero _ _ := by simp [parseListLoop, R.fuel]
  stop _ _ := by simp [parseListLoop]
  step n s t h := ⟨fun q => (.listLiteral, q.2), fun q => contOf L (parseListLoop L) tkComma n q.2, by
    rw [parseListLoop, if_pos ⟨ne_of_test h rfl, ne_of_test h rfl⟩]; simp only [ite_self]; rfl⟩

theorem tupleLoop_is (L : Lexer) : TermsLoop L (parseTupleLoop L) tkRparen .tupleLiteral where
  close_ne := by decide
  zero _ _ := by simp [parseTupleLoop, R.fuel]
  stop _ _ := by simp [parseTupleLoop]
  step n s t h := ⟨fun q => (.tupleLiteral, q.2), fun q => contOf L (parseTupleLoop L) tkComma n q.2, by
    rw [parseTupleLoop, if_pos ⟨ne_of_test h rfl, ne_of_test h rfl⟩]; simp only [ite_self]; rfl⟩

theorem termsUntil_is (L : Lexer) : TermsLoop L (parseTermsUntilRparen L) tkRparen tkRparen where
  close_ne := by decide
  zero _ _ := by simp [parseTermsUntilRparen, R.fuel]
  stop _ _ := by simp [parseTermsUntilRparen]
  step n s t h := ⟨fun q => (t, q.2), fun q => contOf L (parseTermsUntilRparen L) tkComma n q.2, by
    rw [parseTermsUntilRparen, if_pos ⟨ne_of_test h rfl, ne_of_test h rfl⟩]; simp only [ite_self]; rfl⟩

/-- one round of the `{ … }` loop, entered with the first token `t` of an element consumed: behind a colon comes a
map's value, a second `parseTerm` entered with the value's first token -/
theorem setLoop_step {t : Nat} (h : isTermStart t = true) :
    parseSetOrMapLoop L (n+1) s t =
      andThen (parseTerm L n s t) (fun q => (.setMapUdtLiteral, q.2)) fun q =>
        if (nextT L q.2).1 = tkColon then
          enter L (fun n s v => andThen (parseTerm L n s v) (fun q => (.setMapUdtLiteral, q.2)) fun q =>
            contOf L (parseSetOrMapLoop L) tkComma n q.2) n (nextT L q.2).2
        else contOf L (parseSetOrMapLoop L) tkComma n q.2 := by
  rw [parseSetOrMapLoop, if_pos ⟨ne_of_test h rfl, ne_of_test h rfl⟩]; rfl

theorem setLoop_is (L : Lexer) : TermsLoop L (parseSetOrMapLoop L) tkRcurly .setMapUdtLiteral where
  close_ne := by decide
  zero _ _ := by simp [parseSetOrMapLoop, R.fuel]
  stop _ _ := by simp [parseSetOrMapLoop]
  step _ _ _ h := ⟨_, _, setLoop_step h⟩

variable {α : Type} {loop : Nat → LS → Nat → R × α × LS} {close : Nat} {y : α} {ts : Terms} {c : Tok}

/-- either hypothesis of the loop lemmas below shows that there is fuel -/
theorem TermsLoop.pos (H : TermsLoop L loop close y) {u m : Nat} {P : Prop}
    (hi : (loop fuel s u).1.idem = true ∨ P ∧ m < fuel) : ∃ n, fuel = n + 1 :=
  hi.elim (fun hi => Nat.exists_eq_succ_of_ne_zero fun h => by simp [h, H.zero] at hi)
    fun h => Nat.exists_eq_add_one.mpr (Nat.zero_lt_of_lt h.2)

theorem TermsLoop.enter_close (H : TermsLoop L loop close y) (hA : At L s.p (k close :: rest)) :
    enter L loop (n+1) s = ({ idem := true }, y, s.adv (k close)) := by
  rw [enter_eq hA]; exact H.stop n _

theorem terms_tail (ts : Terms) (c : Tok) (rest : List Tok) :
    SeqTail c (ts.renderTail (c :: rest)) (ts.renderElems (c :: rest)) := by
  cases ts with
  | nil => exact .last rest
  | cons t ts => exact .more _

theorem terms_enter (H : TermsLoop L loop close y) :
    (xs : Terms) → xs.All TermSound → ∀ (fuel : Nat) (s : LS) (rest : List Tok),
    At L s.p (xs.renderElems (k close :: rest)) →
    (enter L loop fuel s).1.idem = true ∨ xs.All Complete ∧ xs.size < fuel →
    xs.nonIdem = false ∧ ∃ s', enter L loop fuel s = ({ idem := true }, y, s') ∧ At L s'.p rest
  | .nil, _, fuel, s, rest, hA, hi => by
    obtain ⟨n, rfl⟩ := H.pos hi
    exact ⟨rfl, _, H.enter_close hA, hA.next⟩
  | .cons t ts, hall, fuel, s, rest, hA, hi => by
    obtain ⟨n, rfl⟩ := H.pos hi
    simp only [Terms.size] at hi
    obtain ⟨x, z, e⟩ := H.step n (s.adv t.head) _ (head_start t)
    rw [enter_term hA, e] at hi ⊢
    obtain ⟨hn, q, e, hA'⟩ := hall.1.step hA fed_adv (hi.imp_right fun h => ⟨h.1.1, by omega⟩)
    have hsep : (nextT L q.2).1 ≠ tkColon := by
      rcases (terms_tail ts (k close) rest).read hA' with h | h <;> rw [h]
      · exact (ne_of_test rfl H.close_ne.2).symm
      · decide
    obtain ⟨s', e2, hA''⟩ := (terms_tail ts (k close) rest).enter loop n H.close_ne.1 hA'
    rw [e, if_neg hsep, e2] at hi ⊢
    obtain ⟨h2, r⟩ := terms_enter H ts hall.2 n s' rest hA'' (hi.imp_right fun h => ⟨h.1.2, by omega⟩)
    exact ⟨by simp [Terms.nonIdem, hn, h2], r⟩

theorem pairs_tail (ps : Pairs) (c : Tok) (rest : List Tok) :
    SeqTail c (ps.renderTail (c :: rest)) (ps.renderElems (c :: rest)) := by
  cases ps with
  | nil => exact .last rest
  | cons x y ps => exact .more _

theorem pairs_enter :
    (ps : Pairs) → ps.All TermSound → ∀ (fuel : Nat) (s : LS) (rest : List Tok),
    At L s.p (ps.renderElems (k tkRcurly :: rest)) →
    (enter L (parseSetOrMapLoop L) fuel s).1.idem = true ∨ ps.AllC ∧ ps.size < fuel →
    ps.nonIdem = false ∧
      ∃ s', enter L (parseSetOrMapLoop L) fuel s = ({ idem := true }, .setMapUdtLiteral, s') ∧ At L s'.p rest
  | .nil, _, fuel, s, rest, hA, hi => by
    obtain ⟨n, rfl⟩ := (setLoop_is L).pos hi
    exact ⟨rfl, _, (setLoop_is L).enter_close hA, hA.next⟩
  | .cons x y ps, hall, fuel, s, rest, hA, hi => by
    obtain ⟨n, rfl⟩ := (setLoop_is L).pos hi
    simp only [Pairs.size] at hi
    rw [enter_term hA, setLoop_step (head_start x)] at hi ⊢
    obtain ⟨hn1, q, e, hA1⟩ := hall.1.step hA fed_adv (hi.imp_right fun h => ⟨h.1.1, by omega⟩)
    rw [e] at hi ⊢
    simp only [hA1.read, ↓reduceIte, enter_term hA1.next] at hi ⊢
    obtain ⟨hn2, q', e, hA2⟩ := hall.2.1.step hA1.next fed_adv (hi.imp_right fun h => ⟨h.1.2.1, by omega⟩)
    obtain ⟨s', e2, hA3⟩ := (pairs_tail ps (k tkRcurly) rest).enter (parseSetOrMapLoop L) n (by decide) hA2
    rw [e, e2] at hi ⊢
    obtain ⟨h2, r⟩ := pairs_enter ps hall.2.2 n s' rest hA3 (hi.imp_right fun h => ⟨h.1.2.2, by omega⟩)
    exact ⟨by simp [Pairs.nonIdem, hn1, hn2, h2], r⟩

theorem ident_not_term (hb : (nextT L s).1 ≠ tkDot ∧ (nextT L s).1 ≠ tkLparen) :
    (parseTerm L fuel s tkIdentifier).1.idem = false := by
  refine Bool.eq_false_iff.mpr fun h => ?_
  obtain ⟨n, rfl⟩ := pt_pos h
  rw [pt_ident] at h
  obtain ⟨m, rfl⟩ := func_pos h
  simp [termFunc, parseQualifiedIdentifier, hb.1, hb.2, R.bad] at h

theorem udt_pos {u : Nat} (hi : (parseUDTLoop L fuel s u).1.idem = true) : ∃ n, fuel = n + 1 :=
  Nat.exists_eq_succ_of_ne_zero fun h => by simp [h, parseUDTLoop, R.fuel] at hi

theorem udt_stop : parseUDTLoop L (n+1) s tkRcurly = ({ idem := true }, .setMapUdtLiteral, s) := by simp [parseUDTLoop]

variable {v : Term}

/-- one round of the UDT loop, the field name consumed, over `: value`: should the value itself start with a colon,
that colon is skipped as if it were the separator -/
theorem udt_step (hA : At L s.p (k tkColon :: v.render rest)) :
    parseUDTLoop L (n+1) s tkIdentifier =
      andThen (parseTerm L n (skipToken L ((s.adv (k tkColon)).adv v.head) v.head.kind tkColon).2
          (skipToken L ((s.adv (k tkColon)).adv v.head) v.head.kind tkColon).1)
        (fun q => (.setMapUdtLiteral, q.2)) fun q => contOf L (parseUDTLoop L) tkComma n q.2 := by
  rw [parseUDTLoop]
  simp (decide := true) only [parseQualifiedIdentifier, hA.read, hA.next.read_term, ↓reduceIte]
  rfl

theorem fields_tail (fs : Fields) (c : Tok) (rest : List Tok) :
    SeqTail c (fs.renderTail (c :: rest)) (fs.renderElems (c :: rest)) := by
  cases fs with
  | nil => exact .last rest
  | cons nm v fs => exact .more _

theorem fields_enter :
    (fs : Fields) → fs.All TermSound → ∀ (fuel : Nat) (s : LS) (rest : List Tok),
    At L s.p (fs.renderElems (k tkRcurly :: rest)) → (enter L (parseUDTLoop L) fuel s).1.idem = true →
    fs.nonIdem = false ∧
      ∃ s', enter L (parseUDTLoop L) fuel s = ({ idem := true }, .setMapUdtLiteral, s') ∧ At L s'.p rest
  | .nil, _, fuel, s, rest, hA, hi => by
    obtain ⟨n, rfl⟩ := udt_pos hi
    exact ⟨rfl, _, by rw [enter_eq hA]; exact udt_stop, hA.next⟩
  | .cons nm v fs, hall, fuel, s, rest, hA, hi => by
    obtain ⟨n, rfl⟩ := udt_pos hi
    rw [enter_eq hA, udt_step hA.next] at hi ⊢
    have hcol : v.head.kind ≠ tkColon := fun h => by
      -- `{ f : :name …`: the name is then not a term
      have hv := (andThen_idem hi).1
      obtain ⟨x, rfl⟩ := head_colon v h
      simp only [Fields.renderElems, Term.render] at hA
      have hb := (fields_tail fs (k tkRcurly) rest).read hA.next.next.next.next
      simp only [Term.head, skip_eq, hA.next.next.next.read] at hv
      rw [ident_not_term (by rcases hb with h | h <;> rw [h] <;> decide)] at hv
      exact absurd hv (by decide)
    simp only [skip_ne hcol] at hi ⊢
    obtain ⟨hn1, q, e, hA1⟩ := hall.1.step hA.next.next fed_adv (.inl hi)
    obtain ⟨s', e2, hA2⟩ := (fields_tail fs (k tkRcurly) rest).enter (parseUDTLoop L) n (by decide) hA1
    rw [e, e2] at hi ⊢
    obtain ⟨h2, r⟩ := fields_enter fs hall.2 n s' rest hA2 hi
    exact ⟨by simp [Fields.nonIdem, hn1, h2], r⟩

theorem args_pos {u : Nat} (hi : (parseFuncArgs L fuel s u).1.idem = true) : ∃ n, fuel = n + 1 :=
  Nat.exists_eq_succ_of_ne_zero fun h => by simp [h, parseFuncArgs, R.fuel] at hi

theorem args_stop : parseFuncArgs L (n+1) s tkRparen = ({ idem := true }, tkRparen, s) := by simp [parseFuncArgs]

/-- one round of the argument loop, entered with the first token `u` of an argument consumed: a look at the next token
tells a bare column name from a term -/
theorem args_step {u : Nat} (h : isTermStart u = true) :
    parseFuncArgs L (n+1) s u =
      if u = tkIdentifier ∧ ((nextT L s).1 = tkComma ∨ (nextT L s).1 = tkRparen) then
        contOf L (parseFuncArgs L) tkComma n (remark s)
      else andThen (parseTerm L n (remark s) u) (fun q => (u, q.2)) fun q => contOf L (parseFuncArgs L) tkComma n q.2 := by
  rw [parseFuncArgs, if_pos ⟨ne_of_test h rfl, ne_of_test h rfl⟩]; rfl

theorem args_tail (as : Args) (c : Tok) (rest : List Tok) :
    SeqTail c (as.renderTail (c :: rest)) (as.renderElems (c :: rest)) := by
  cases as with
  | nil => exact .last rest
  | term t as | col x as => exact .more _

theorem args_enter :
    (as : Args) → as.All TermSound → ∀ (fuel : Nat) (s : LS) (rest : List Tok),
    At L s.p (as.renderElems (k tkRparen :: rest)) → (enter L (parseFuncArgs L) fuel s).1.idem = true →
    as.nonIdem = false ∧ ∃ s', enter L (parseFuncArgs L) fuel s = ({ idem := true }, tkRparen, s') ∧ At L s'.p rest
  | .nil, _, fuel, s, rest, hA, hi => by
    obtain ⟨n, rfl⟩ := args_pos hi
    exact ⟨rfl, _, by rw [enter_eq hA]; exact args_stop, hA.next⟩
  | .col x as, hall, fuel, s, rest, hA, hi => by
    obtain ⟨n, rfl⟩ := args_pos hi
    obtain ⟨s', e, hA'⟩ := (args_tail as (k tkRparen) rest).enter (parseFuncArgs L) n (by decide) hA.next.remark
    rw [enter_eq hA, args_step (u := tkIdentifier) rfl,
      if_pos ⟨rfl, ((args_tail as (k tkRparen) rest).read hA.next).symm⟩, e] at hi ⊢
    exact args_enter as hall n s' rest hA' hi
  | .term t as, hall, fuel, s, rest, hA, hi => by
    obtain ⟨n, rfl⟩ := args_pos hi
    have hcond : ¬(t.head.kind = tkIdentifier ∧
        ((nextT L (s.adv t.head)).1 = tkComma ∨ (nextT L (s.adv t.head)).1 = tkRparen)) := by
      rintro ⟨hid, hsep⟩
      rcases second_kind hA hid with h | h <;> rw [h] at hsep <;> exact absurd hsep (by decide)
    rw [enter_term hA, args_step (head_start t), if_neg hcond] at hi ⊢
    obtain ⟨hn1, q, e, hA1⟩ := hall.1.step hA fed_adv.remark (.inl hi)
    obtain ⟨s', e2, hA2⟩ := (args_tail as (k tkRparen) rest).enter (parseFuncArgs L) n (by decide) hA1
    rw [e, e2] at hi ⊢
    obtain ⟨h2, r⟩ := args_enter as hall.2 n s' rest hA2 hi
    exact ⟨by simp [Args.nonIdem, hn1, h2], r⟩

/-- `rd` renders names separated by commas and then the token `close`, as `renderParams` and `renderCols` do -/
structure NameList (rd : List Ident → List Tok → List Tok) (close : Nat) : Prop where
  nil : ∀ rest, rd [] rest = k close :: rest
  cons : ∀ a cs rest, ∃ tail, rd (a :: cs) rest = idt a :: tail ∧ SeqTail (k close) tail (rd cs rest)

/-- a loop that reads names up to a closing token (`parseIdentifiers`, `parseTypeLoop`), on such a list: if it reports
no error (`okay`), or has fuel for the list, it comes to the closing token with fuel left -/
theorem names_run {β : Type} {loop : Nat → LS → Nat → β} {okay : β → Prop} {rd : List Ident → List Tok → List Tok}
    (hrd : NameList rd close) (hc : close ≠ tkComma) (h0 : ∀ s t, ¬okay (loop 0 s t))
    (hstep : ∀ n s, loop (n+1) s tkIdentifier = contOf L loop tkComma n s) :
    ∀ (cs : List Ident) (fuel : Nat) (s : LS), (okay (enter L loop fuel s) ∨ cs.length < fuel) → At L s.p (rd cs rest) →
    ∃ (n : Nat) (s' : LS), enter L loop fuel s = loop (n+1) (s'.adv (k close)) close ∧ At L s'.p (k close :: rest)
  | [], fuel, s, h, hA => by
    rw [hrd.nil] at hA
    cases fuel with
    | zero => simp [enter, h0] at h
    | succ n => exact ⟨n, s, enter_eq hA, hA⟩
  | a :: cs, fuel, s, h, hA => by
    cases fuel with
    | zero => simp [enter, h0] at h
    | succ n =>
      obtain ⟨tail, e, ht⟩ := hrd.cons a cs rest
      rw [e] at hA
      obtain ⟨s', e2, hA'⟩ := ht.enter loop n hc hA.next
      rw [enter_eq hA, hstep, e2] at h ⊢
      exact names_run hrd hc h0 hstep cs n s' (h.imp_right fun h => by simpa using h) hA'

theorem typeLoop_names : NameList renderParams tkGt where
  nil _ := rfl
  cons a cs rest := by cases cs <;> exact ⟨_, rfl, by constructor⟩

/-- `( name )` / `( name<a, b> )`, the type's name consumed: `parseType` ends behind the token `b` that follows the type -/
theorem type_run {ty : Ident} {ps : List Ident} (hb : b.kind ≠ tkLt) (hA : At L p (renderType ty ps (b :: tl)))
    (hF : Fed s p (idt ty)) (he : (parseType L fuel s).2.1 = false) :
    ∃ s' : LS, parseType L fuel s = (b.kind, false, s'.adv b) ∧ At L s'.p (b :: tl) := by
  cases ps with
  | nil =>
    have h : At L s.p (b :: tl) := hF.at hA
    exact ⟨s, by simp [parseType, h.read, hb], h⟩
  | cons x more =>
    have h : At L s.p (k tkLt :: renderParams (x :: more) (b :: tl)) := hF.at hA
    have e : parseType L fuel s = enter L (parseTypeLoop L) fuel (s.adv (k tkLt)) := by simp [parseType, h.read, enter]
    rw [e] at he ⊢
    obtain ⟨n, s', e2, hA'⟩ := names_run (loop := parseTypeLoop L) (okay := fun o => o.2.1 = false) typeLoop_names
      (by decide) (by simp [parseTypeLoop]) (fun n s => by rw [parseTypeLoop]; simp (decide := true) only [↓reduceIte]; rfl)
      (x :: more) fuel _ (Or.inl he) h.next
    exact ⟨s'.adv (k tkGt), by rw [e2]; simp (decide := true) [parseTypeLoop, hA'.next.read], hA'.next⟩

theorem curly_plain (hA : At L s.p (a :: tl)) (ha : a.kind ≠ tkIdentifier) :
    termCurly L (n+1) s = enter L (parseSetOrMapLoop L) n s := by
  simp [termCurly, enter, hA.read, ha]

/-- `{ f( …` and `{ ks.f( …`: the look-ahead for a UDT field name finds no colon and is undone -/
theorem curly_call {ks : Option Ident} {name : Ident} (hA : At L s.p (renderName ks name (k tkLparen :: tl))) :
    ∃ s' : LS, s'.p = s.p ∧ termCurly L (n+1) s = enter L (parseSetOrMapLoop L) n s' := by
  cases ks with
  | none =>
    obtain ⟨s', hp, e⟩ := enter_remark (parseSetOrMapLoop L) n hA
    refine ⟨s', hp, e ▸ ?_⟩
    simp (decide := true) [termCurly, parseQualifiedIdentifier, hA.read, hA.next.mark.read]
  | some q =>
    obtain ⟨s', hp, e⟩ := enter_remark (parseSetOrMapLoop L) n hA
    refine ⟨s', hp, e ▸ ?_⟩
    simp (decide := true) [termCurly, parseQualifiedIdentifier, hA.read, hA.next.mark.read, hA.next.mark.next.read,
      hA.next.mark.next.next.read]

theorem curly_term (h : At L s.p (t.render rest)) :
    ∃ s' : LS, s'.p = s.p ∧ termCurly L (n+1) s = enter L (parseSetOrMapLoop L) n s' := by
  by_cases hk : t.head.kind = tkIdentifier
  · obtain ⟨ks, name, args, rfl⟩ := head_ident hk
    exact curly_call h
  · obtain ⟨tl, e⟩ := render_head t rest
    exact ⟨s, rfl, curly_plain (e ▸ h : At L s.p (t.head :: tl)) hk⟩

theorem curly_terms (xs : Terms) (h : At L s.p (xs.renderElems (k tkRcurly :: rest))) :
    ∃ s' : LS, s'.p = s.p ∧ termCurly L (n+1) s = enter L (parseSetOrMapLoop L) n s' := by
  cases xs with
  | nil => exact ⟨s, rfl, curly_plain h (by decide)⟩
  | cons t ts => exact curly_term h

theorem curly_pairs (ps : Pairs) (h : At L s.p (ps.renderElems (k tkRcurly :: rest))) :
    ∃ s' : LS, s'.p = s.p ∧ termCurly L (n+1) s = enter L (parseSetOrMapLoop L) n s' := by
  cases ps with
  | nil => exact ⟨s, rfl, curly_plain h (by decide)⟩
  | cons x y ps => exact curly_term h

/-- `{ field : …`: the look-ahead finds the colon, and the UDT loop is entered with the field name -/
theorem curly_udt {f : Ident} (hA : At L s.p (idt f :: k tkColon :: tl)) :
    ∃ s' : LS, s'.p = s.p ∧ termCurly L (n+1) s = enter L (parseUDTLoop L) n s' := by
  obtain ⟨s', hp, e⟩ := enter_remark (parseUDTLoop L) n hA
  refine ⟨s', hp, e ▸ ?_⟩
  simp (decide := true) [termCurly, parseQualifiedIdentifier, hA.read, hA.next.mark.read]

theorem paren_plain (hA : At L s.p (a :: tl)) (ha : a.kind ≠ tkIdentifier) :
    termParen L (n+1) s = enter L (parseTupleLoop L) n s := by
  simp [termParen, enter, hA.read, ha]

/-- `( f(…), …` and `( ks.f(…), …`: read as the start of a type cast, which then fails -/
theorem paren_astray (hA : At L s.p (a :: tl)) (ha : a.kind = tkIdentifier)
    (hb : (nextT L (s.adv a)).1 = tkLparen ∨ (nextT L (s.adv a)).1 = tkDot) : (termParen L fuel s).1.idem = false := by
  cases fuel with
  | zero => simp [termParen, R.fuel]
  | succ n => rcases hb with h | h <;> simp (decide := true) [termParen, parseType, hA.read, ha, h, R.bad]

/-- `(` before a tuple's terms: the tuple loop is entered with the first token, unless that is an identifier - then the
verdict is not "idempotent", and the terms are not plain -/
theorem paren_terms (xs : Terms) (h : At L s.p (xs.renderElems (k tkRparen :: rest)))
    (hi : (termParen L (n+1) s).1.idem = true ∨ xs.plain = true) :
    termParen L (n+1) s = enter L (parseTupleLoop L) n s := by
  cases xs with
  | nil => exact paren_plain h (by decide)
  | cons t ts =>
    have h : At L s.p (t.render (ts.renderTail (k tkRparen :: rest))) := h
    obtain ⟨tl, e⟩ := render_head t (ts.renderTail (k tkRparen :: rest))
    have h' : At L s.p (t.head :: tl) := e ▸ h
    refine paren_plain h' fun hk => ?_
    rcases hi with hi | hp
    · rw [paren_astray h' hk (second_kind h hk)] at hi
      exact absurd hi (by decide)
    · obtain ⟨ks, name, args, rfl⟩ := head_ident hk
      simp [Terms.plain, Term.plain] at hp

theorem renderType_head (ty : Ident) (ps : List Ident) (rest : List Tok) : ∃ tly, renderType ty ps rest = idt ty :: tly := by
  cases ps <;> simp [renderType]

/-- `( type ) term`: if the verdict is "idempotent" the type was read, the closing parenthesis found, and the rest is `parseTerm` -/
theorem paren_cast {ty : Ident} {ps : List Ident} (hA : At L s.p (renderType ty ps (k tkRparen :: t.render rest)))
    (hi : (termParen L (n+1) s).1.idem = true) :
    ∃ s' : LS, At L s'.p (t.render rest) ∧ (parseTerm L n (s'.adv t.head) t.head.kind).1.idem = true ∧
      (termParen L (n+1) s).2.2 = (parseTerm L n (s'.adv t.head) t.head.kind).2.2 := by
  obtain ⟨tly, e⟩ := renderType_head ty ps (k tkRparen :: t.render rest)
  have h : At L s.p (idt ty :: tly) := e ▸ hA
  rw [termParen] at hi ⊢
  simp only [h.read, ↓reduceIte] at hi ⊢
  cases he : (parseType L n (s.adv (idt ty))).2.1 with
  | true => simp [he, R.bad] at hi
  | false =>
    obtain ⟨s', e3, hA'⟩ := type_run (by decide) hA fed_adv he
    refine ⟨_, hA'.next, ?_⟩
    simp only [e3, Bool.false_eq_true, ↓reduceIte, ne_eq, not_true_eq_false, hA'.next.read_term] at hi ⊢
    cases hr : (parseTerm L n ((s'.adv (k tkRparen)).adv t.head) t.head.kind).1.idem <;> simp [hr] at hi ⊢

theorem func_eq {ks : Option Ident} {name : Ident} (hA : At L p (renderName ks name (k tkLparen :: tl)))
    (hF : Fed s p (nameHead ks name)) :
    ∃ s' : LS, At L s'.p tl ∧ termFunc L (n+1) s =
      andThen (enter L (parseFuncArgs L) n s') (fun q => (.functionCall, q.2)) fun q =>
        if q.1 ≠ tkRparen then (R.bad, .functionCall, q.2)
        else ({ idem := !callNonIdem ks name }, .functionCall,
          { q.2 with sawNonIdem := q.2.sawNonIdem || callNonIdem ks name }) := by
  obtain ⟨s₁, hq, hA₁⟩ := pqi_name (by decide) hA hF
  refine ⟨_, hA₁.next, ?_⟩
  have hb : (isNonIdempotentFunc name && ((ks.getD {}).isEmpty || (ks.getD {}).equal "system")) = callNonIdem ks name := by
    cases ks <;> simp [callNonIdem, Ident.isEmpty]
  rw [termFunc]
  simp only [hq, Bool.false_eq_true, ↓reduceIte, ne_eq, not_true_eq_false, hb]
  rfl

mutual
theorem term_sound (t : Term) : TermSound t := fun L fuel s p rest hA hF hi => by
  obtain ⟨n, rfl⟩ := pt_pos hi
  cases t with
  | int => exact ⟨by rw [Term.head, pt_int]; exact hF.at hA, rfl⟩
  | prim q => exact ⟨by rw [Term.head, pt_prim]; exact hF.at hA, rfl⟩
  | bindQ => exact ⟨by rw [Term.head, pt_q]; exact hF.at hA, rfl⟩
  | bindNamed nm =>
    have h : At L s.p (idt nm :: rest) := hF.at hA
    exact ⟨by rw [Term.head, pt_colon h]; exact h.next, rfl⟩
  | list xs =>
    rw [Term.head, pt_lsquare] at hi ⊢
    obtain ⟨hn, s', e, hA'⟩ := terms_enter (listLoop_is L) xs (terms_all xs) n s rest (hF.at hA) (.inl hi)
    rw [e]; exact ⟨hA', hn⟩
  | tuple xs =>
    rw [Term.head, pt_lparen] at hi ⊢
    obtain ⟨m, rfl⟩ := paren_pos hi
    have e := paren_terms xs (hF.at hA) (Or.inl hi)
    rw [e] at hi ⊢
    obtain ⟨hn, s', e, hA'⟩ := terms_enter (tupleLoop_is L) xs (terms_all xs) m s rest (hF.at hA) (.inl hi)
    rw [e]; exact ⟨hA', hn⟩
  | set xs =>
    rw [Term.head, pt_lcurly] at hi ⊢
    obtain ⟨m, rfl⟩ := curly_pos hi
    obtain ⟨s₁, hp, e⟩ := curly_terms xs (n := m) (hF.at hA)
    rw [e] at hi ⊢
    obtain ⟨hn, s', e, hA'⟩ := terms_enter (setLoop_is L) xs (terms_all xs) m s₁ rest (hp ▸ hF.at hA) (.inl hi)
    rw [e]; exact ⟨hA', hn⟩
  | map kvs =>
    rw [Term.head, pt_lcurly] at hi ⊢
    obtain ⟨m, rfl⟩ := curly_pos hi
    obtain ⟨s₁, hp, e⟩ := curly_pairs kvs (n := m) (hF.at hA)
    rw [e] at hi ⊢
    obtain ⟨hn, s', e, hA'⟩ := pairs_enter kvs (pairs_all kvs) m s₁ rest (hp ▸ hF.at hA) (.inl hi)
    rw [e]; exact ⟨hA', hn⟩
  | udt fs =>
    rw [Term.head, pt_lcurly] at hi ⊢
    obtain ⟨m, rfl⟩ := curly_pos hi
    have h : At L s.p (fs.renderElems (k tkRcurly :: rest)) := hF.at hA
    cases fs with
    | nil =>
      -- `{}`: read as the empty set
      rw [curly_plain h (by decide)] at hi ⊢
      obtain ⟨-, s', e, hA'⟩ := terms_enter (setLoop_is L) .nil trivial m s rest h (.inl hi)
      rw [e]; exact ⟨hA', rfl⟩
    | cons nm v fs' =>
      obtain ⟨s₁, hp, e⟩ := curly_udt (n := m) h
      rw [e] at hi ⊢
      obtain ⟨hn, s', e, hA'⟩ := fields_enter (.cons nm v fs') (fields_all (.cons nm v fs')) m s₁ rest (hp ▸ h) hi
      rw [e]; exact ⟨hA', hn⟩
  | cast ty ps t =>
    rw [Term.head, pt_lparen] at hi ⊢
    obtain ⟨m, rfl⟩ := paren_pos hi
    obtain ⟨s', hA', ht, e⟩ := paren_cast (hF.at hA) hi
    obtain ⟨hA'', hn⟩ := term_sound t L m _ _ rest hA' fed_adv ht
    exact ⟨e ▸ hA'', by simp [Term.nonIdem, hn]⟩
  | call ks name args =>
    rw [head_call] at hF hi ⊢
    rw [nameHead, pt_ident] at hi ⊢
    obtain ⟨m, rfl⟩ := func_pos hi
    obtain ⟨s₁, hA₁, e⟩ := func_eq (n := m) hA hF
    rw [e] at hi ⊢
    obtain ⟨hn, s', e2, hA'⟩ := args_enter args (args_all args) m s₁ rest hA₁ (andThen_idem hi).1
    rw [andThen_ok (by rw [e2]), e2] at hi ⊢
    simp only [ne_eq, not_true_eq_false, ↓reduceIte, Bool.not_eq_true'] at hi ⊢
    exact ⟨hA', by simp [Term.nonIdem, hi, hn]⟩
theorem terms_all : (ts : Terms) → ts.All TermSound
  | .nil => trivial
  | .cons t ts => ⟨term_sound t, terms_all ts⟩
theorem pairs_all : (ps : Pairs) → ps.All TermSound
  | .nil => trivial
  | .cons a b ps => ⟨term_sound a, term_sound b, pairs_all ps⟩
theorem fields_all : (fs : Fields) → fs.All TermSound
  | .nil => trivial
  | .cons _ v fs => ⟨term_sound v, fields_all fs⟩
theorem args_all : (as : Args) → as.All TermSound
  | .nil => trivial
  | .term t as => ⟨term_sound t, args_all as⟩
  | .col _ as => args_all as
end

theorem Term.size_pos (t : Term) : 0 < t.size := by
  cases t <;> simp only [Term.size] <;> omega

mutual
theorem term_complete (t : Term) (hp : t.plain = true) : Complete t := fun L fuel s p rest hf hA hF => by
  obtain _ | n := fuel
  · have := t.size_pos; omega
  cases t with
  | int => rw [Term.head, pt_int]; exact ⟨rfl, hF.at hA⟩
  | prim q => rw [Term.head, pt_prim]; exact ⟨rfl, hF.at hA⟩
  | bindQ => rw [Term.head, pt_q]; exact ⟨rfl, hF.at hA⟩
  | bindNamed nm =>
    have h : At L s.p (idt nm :: rest) := hF.at hA
    rw [Term.head, pt_colon h]; exact ⟨rfl, h.next⟩
  | list xs =>
    simp only [Term.size] at hf
    obtain ⟨-, s', e, hA'⟩ := terms_enter (listLoop_is L) xs (terms_all xs) n s rest (hF.at hA) (.inr ⟨terms_complete xs hp, by omega⟩)
    rw [Term.head, pt_lsquare, e]; exact ⟨rfl, hA'⟩
  | tuple xs =>
    simp only [Term.size] at hf
    obtain _ | m := n
    · omega
    obtain ⟨-, s', e, hA'⟩ := terms_enter (tupleLoop_is L) xs (terms_all xs) m s rest (hF.at hA) (.inr ⟨terms_complete xs hp, by omega⟩)
    rw [Term.head, pt_lparen, paren_terms xs (hF.at hA) (Or.inr hp), e]; exact ⟨rfl, hA'⟩
  | set xs =>
    simp only [Term.size] at hf
    obtain _ | m := n
    · omega
    obtain ⟨s₁, hs, e⟩ := curly_terms xs (n := m) (hF.at hA)
    obtain ⟨-, s', e2, hA'⟩ := terms_enter (setLoop_is L) xs (terms_all xs) m s₁ rest (hs ▸ hF.at hA) (.inr ⟨terms_complete xs hp, by omega⟩)
    rw [Term.head, pt_lcurly, e, e2]; exact ⟨rfl, hA'⟩
  | map kvs =>
    simp only [Term.size] at hf
    obtain _ | m := n
    · omega
    obtain ⟨s₁, hs, e⟩ := curly_pairs kvs (n := m) (hF.at hA)
    obtain ⟨-, s', e2, hA'⟩ := pairs_enter kvs (pairs_all kvs) m s₁ rest (hs ▸ hF.at hA) (.inr ⟨pairs_complete kvs hp, by omega⟩)
    rw [Term.head, pt_lcurly, e, e2]; exact ⟨rfl, hA'⟩
  | udt _ | cast _ _ _ | call _ _ _ => simp [Term.plain] at hp
theorem terms_complete : (ts : Terms) → ts.plain = true → ts.All Complete
  | .nil, _ => trivial
  | .cons t ts, hp => by
    simp only [Terms.plain, Bool.and_eq_true] at hp
    exact ⟨term_complete t hp.1, terms_complete ts hp.2⟩
theorem pairs_complete : (ps : Pairs) → ps.plain = true → ps.AllC
  | .nil, _ => trivial
  | .cons a b ps, hp => by
    simp only [Pairs.plain, Bool.and_eq_true] at hp
    exact ⟨term_complete a hp.1.1, term_complete b hp.1.2, pairs_complete ps hp.2⟩
end

end CqlVerif.Ast
